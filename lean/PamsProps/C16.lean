/-
C16 — Trading halt rule: no fills on a stopped market; halt and resume on schedule.
-/
import PamsLemmas.SrcEvents
import PamsLemmas.SourceTie
import PamsModel.Events
import PamsProps.C08
import PamsLemmas.RunnerLemmas
import PamsProps.C15

namespace Pams.C16
open Pams Pams.Events

/-- No fill is ever recorded on a market that is not running: a round that produces fills
requires the market to be running (`_execute_orders` refuses otherwise). -/
theorem fills_only_running {P : Type} [LinearOrder P] (ops : PriceOps P) (m m' : Market P)
    (fs : List (Fill P)) (he : m.execution ops = .ok (m', fs)) (hne : fs ≠ []) : m.running = true :=
  (Pams.C08.after_round ops m m' fs he hne).2.2.2.2.2.2

/-- … and while the market is not running a round never returns fills -/
theorem not_running_no_fills {P : Type} [LinearOrder P] (ops : PriceOps P) (m m' : Market P)
    (fs : List (Fill P)) (he : m.execution ops = .ok (m', fs)) (hnr : m.running = false) : fs = [] := by
  by_contra hne
  exact Bool.false_ne_true (hnr ▸ fills_only_running ops m m' fs he hne)

variable {K : Type} [Field K] [LinearOrder K] [IsStrictOrderedRing K]

/-- the halt line moves with the number of halts so far:
`|p0 - p| ≥ |p0 · rate · (halts + 1)|` -/
theorem haltTest_spec (p0 rate p : K) (k : Nat) :
    haltTest p0 rate p k = true ↔ |p0 * rate * ((k + 1 : Nat) : K)| ≤ |p0 - p| := by
  unfold haltTest
  rw [Pams.C15.abs_eq, Pams.C15.abs_eq]
  simp only [decide_eq_true_eq]
  rfl

/-- When the line is reached by a fill on a running target market, the market (and the session's
execution flag) is switched off at once, the halt is recorded with the fill's time, and the halt
count grows by one. -/
theorem halt_immediate (targets : List Nat) (s : HaltState) (m t : Nat) (hm : m ∈ targets) :
    haltAfterFill targets s m true true t =
      ({ halted := some m, startedAt := t, activations := s.activations + 1 }, true) := by
  unfold haltAfterFill
  have : targets.contains m = true := by simpa using hm
  rw [this]; rfl

/-- otherwise (non-target market, market not running, or line not reached) nothing changes -/
theorem halt_otherwise (targets : List Nat) (s : HaltState) (m t : Nat) (running crossed : Bool)
    (h : m ∉ targets ∨ running = false ∨ crossed = false) :
    haltAfterFill targets s m running crossed t = (s, false) := by
  unfold haltAfterFill
  rcases h with h | h | h
  · have : targets.contains m = false := by simpa using h
    rw [this]; rfl
  · subst h; cases targets.contains m <;> rfl
  · subst h; cases targets.contains m <;> cases running <;> rfl

/-- Halt duration: with a halt in force on `m` since `t0`, the before-step handler of `m` resumes
exactly at the first step later than `t0 + length` — so the market stays stopped for `length`
further steps and resumes at the step after. -/
theorem halt_duration (length : Nat) (s : HaltState) (m t0 t : Nat)
    (hs : s.halted = some m) (h0 : s.startedAt = t0) :
    (haltBeforeStep length s m t).2 = decide (t0 + length < t) ∧
    (t ≤ t0 + length → haltBeforeStep length s m t = (s, false)) ∧
    (t0 + length < t → (haltBeforeStep length s m t).1.halted = none) := by
  unfold haltBeforeStep
  subst h0
  by_cases h : s.startedAt + length < t
  · simp [hs, h]
  · simp [hs, h]

/-- A rule with no halt in force changes nothing: it never "resumes", at any time, for any market;
nor does a halt on one market resume another. -/
theorem no_spurious_resume (length : Nat) (s : HaltState) (m t : Nat)
    (h : s.halted ≠ some m) : haltBeforeStep length s m t = (s, false) := by
  unfold haltBeforeStep
  simp [h]

/-- a session boundary ends the halt: afterwards no handler resumes anything -/
theorem session_boundary_ends_halt (length : Nat) (s : HaltState) (m t : Nat) :
    haltBeforeStep length (haltNewSession s) m t = (haltNewSession s, false) :=
  no_spurious_resume length _ m t (by simp [haltNewSession])

/-- A request treated while the execution flag is off — the flag is what the halt rule switches
(C09) — requests no matching round. -/
theorem no_round_during_halt (t : Nat) (r : Pams.Runner.Request) :
    ∀ e ∈ (Pams.Runner.processRequest t false r).tr, e.isExec = false :=
  (Pams.Runner.processRequest_flag_off t r).1

theorem nonvacuous :
    (haltAfterFill [0, 2] HaltState.init 2 true true 7).2 = true ∧
    (haltBeforeStep 3 { halted := some 2, startedAt := 7, activations := 1 } 2 10).2 = false ∧
    (haltBeforeStep 3 { halted := some 2, startedAt := 7, activations := 1 } 2 11).2 = true ∧
    (haltBeforeStep 3 { halted := some 2, startedAt := 7, activations := 1 } 0 11).2 = false ∧
    (haltBeforeStep 3 HaltState.init 2 50).2 = false := by decide

/-- (T) the halt test `>=` and the resume test `>` of `TradingHaltRule` in the current sources -/
theorem source_halt_tests :
    Pams.Source.opsOf "TradingHaltRule.hooked_after_execution" = [">=", "==", "is"] ∧
    Pams.Source.opsOf "TradingHaltRule.hooked_before_step_for_market" = [">", "==", "is", "is not", "is not"] := by decide +kernel


section SourceCode
open Pams.Py Pams.Src
variable {K : Type} [LinearOrder K] [NumOpsC K]

/-- **the source of `hooked_after_execution` is the model's `haltAfterFill` ∘ `haltTest`** -/
theorem code_halt_after_execution (r p0 p : K) (time acts started length : Nat) (running sesFlag : Bool) :
    resultG thrObs (rhoHalt r p0 p 5 time acts started length running sesFlag) evEnv FUEL
      "TradingHaltRule.hooked_after_execution" [.ref 3, .ref 7, .ref 9] (thrSt 0 0)
      = (let s : Events.HaltState := { halted := none, startedAt := started, activations := acts }
         let r' := Events.haltAfterFill [5] s 5 running (Events.haltTest p0 r p acts) time
         .tuple [.bool (if r'.2 then false else running), .int r'.1.startedAt, .int r'.1.activations,
                 .bool (if r'.2 then false else sesFlag),
                 (if r'.2 then .ref 5 else .none), (if r'.2 then .ref 8 else .none)]) :=
  thr_after_src r p0 p 5 time acts started length (.inl rfl) running sesFlag

/-- **the source of `hooked_before_step_for_market` is the model's `haltBeforeStep`** -/
theorem code_resume (r p0 p : K) (time acts started length : Nat) (running sesFlag : Bool) :
    resultG thrObs (rhoHalt r p0 p 5 time acts started length running sesFlag) evEnv FUEL
      "TradingHaltRule.hooked_before_step_for_market" [.ref 3, .ref 7, .ref 5] (thrSt 5 8)
      = (let s : Events.HaltState := { halted := some 5, startedAt := started, activations := acts }
         let r' := Events.haltBeforeStep length s 5 time
         .tuple [.bool (if r'.2 then true else running), .int r'.1.startedAt, .int r'.1.activations,
                 .bool (if r'.2 then true else sesFlag),
                 (if r'.2 then .none else .ref 5), (if r'.2 then .none else .ref 8)]) := by
  rw [resultG_eq_of_agreeO _ (events_agree (thrBeforeCase 5 8) (by simp [evCases]))]
  have hc : ((started : Int) + length < time) ↔ started + length < time := by omega
  by_cases h : started + length < time <;>
    simp [thrBeforeT, haltSameO, py_eval, Events.haltBeforeStep, hc, h]

/-- no halt of this rule in force ⇒ the before-step hook changes nothing (no spurious resume) -/
theorem code_no_spurious_resume (r p0 p : K) (time acts started length : Nat) (running sesFlag : Bool)
    (hm hs : Nat) (h : (hm = 0 ∧ hs = 0) ∨ (hm = 6 ∧ hs = 8) ∨ (hm = 5 ∧ hs = 9)) :
    resultG thrObs (rhoHalt r p0 p 5 time acts started length running sesFlag) evEnv FUEL
      "TradingHaltRule.hooked_before_step_for_market" [.ref 3, .ref 7, .ref 5] (thrSt hm hs)
      = .tuple [.bool running, .int started, .int acts, .bool sesFlag,
                (if hm = 0 then .none else .ref hm), (if hs = 0 then .none else .ref hs)] := by
  have hc : thrBeforeCase hm hs ∈ evCases := by
    rcases h with ⟨rfl, rfl⟩ | ⟨rfl, rfl⟩ | ⟨rfl, rfl⟩ <;> simp [evCases]
  rw [resultG_eq_of_agreeO _ (events_agree _ hc)]
  rcases h with ⟨rfl, rfl⟩ | ⟨rfl, rfl⟩ | ⟨rfl, rfl⟩ <;> simp [thrBeforeT, haltSameO, py_eval]

end SourceCode

end Pams.C16
