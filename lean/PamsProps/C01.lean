/-
C01 — Trades honour both limits; one price per round, set by the resting side.

`Inv` is the market invariant (PamsLemmas/MarketLemmas.lean); `inv_runOps` shows it holds in every
state reachable from the initial state by valid operations, so each theorem below holds for every
history.
-/
import PamsLemmas.SourceTie
import PamsLemmas.MarketLemmas
import Mathlib.Data.Nat.Basic

set_option linter.unusedSectionVars false

namespace Pams.C01
open Pams
variable {P : Type} [LinearOrder P]

/-- (a)+(b): every fill of a round pairs one resting buy order with one resting sell order of this
market, names their owners, and its price is no higher than the buyer's limit and no lower than
the seller's limit (market orders impose no bound). -/
theorem price_within_limits (ops : PriceOps P) (m m' : Market P) (fs : List (Fill P))
    (h : Inv m) (he : m.execution ops = .ok (m', fs)) :
    ∀ f ∈ fs, ∃ b ∈ m.buys, ∃ s ∈ m.sells,
      b.id = f.buyId ∧ s.id = f.sellId ∧ b.agent = f.buyAgent ∧ s.agent = f.sellAgent ∧
      b.isBuy = true ∧ s.isBuy = false ∧
      (∀ pb, b.price = some pb → f.price ≤ pb) ∧ (∀ ps, s.price = some ps → ps ≤ f.price) := by
  intro f hf
  obtain ⟨price, hrp, -, pr, hpr, rfl⟩ := fill_of_execution he hf
  obtain ⟨⟨b, hb, hsb⟩, ⟨s, hs', hss⟩⟩ := walk_pairs_mem m.buys m.sells pr hpr
  have hbound := (walk_price_bound m.buys m.sells price h.buys.sorted h.sells.sorted
    h.buys.side h.sells.side hrp).1 pr hpr
  exact ⟨b, hb, s, hs', hsb.id.symm, hss.id.symm, hsb.agent.symm, hss.agent.symm,
    h.buys.side b hb, h.sells.side s hs', fun pb hpb => hbound.1 pb (hsb.price.trans hpb),
    fun ps hps => hbound.2 ps (hss.price.trans hps)⟩

/-- (c): all fills produced by one matching round carry one common price. -/
theorem single_price (ops : PriceOps P) (m m' : Market P) (fs : List (Fill P))
    (he : m.execution ops = .ok (m', fs)) : ∀ f ∈ fs, ∀ g ∈ fs, f.price = g.price := by
  intro f hf g hg
  obtain ⟨p, hp, -, _, -, rfl⟩ := fill_of_execution he hf
  obtain ⟨q, hq, -, _, -, rfl⟩ := fill_of_execution he hg
  exact Option.some.inj (hp.symm.trans hq)

/-- (d): the price of a round that produced fills is the proposal of the *last* matched pair:
the limit price of its earlier-accepted order (smaller `(placedAt, id)`), or the limit side's price
when the counterpart is a market order. -/
theorem price_is_last_pair (ops : PriceOps P) (m m' : Market P) (fs : List (Fill P))
    (h : Inv m) (he : m.execution ops = .ok (m', fs)) :
    ∀ f ∈ fs, lastPairPrice (walk m.buys m.sells).1 = some f.price := by
  intro f hf
  obtain ⟨price, hrp, -, _, -, rfl⟩ := fill_of_execution he hf
  rw [← roundPrice_eq_last m.buys m.sells h.buys.sorted h.sells.sorted]
  exact hrp

theorem pairPrice_rule (b s : Order P) :
    pairPrice b s =
      match b.price, s.price with
      | none, none => none
      | some p, none => some p
      | none, some q => some q
      | some p, some q =>
        if b.placedAt < s.placedAt ∨ (b.placedAt = s.placedAt ∧ b.id < s.id) then some p else some q := by
  unfold pairPrice
  rcases b.price with _ | p <;> rcases s.price with _ | q <;> simp
  by_cases h1 : b.placedAt = s.placedAt <;> simp [h1]

/-- the three clauses hold along every history from the initial state -/
theorem history (ops : PriceOps P) (mp : P) (fund : Option P) (os : List (Op P))
    (hv : ∀ o ∈ os, o.valid) (m' : Market P) (fs : List (Fill P))
    (he : ((Market.init ops mp fund).runOps ops os).1.execution ops = .ok (m', fs)) :
    (∀ f ∈ fs, ∀ g ∈ fs, f.price = g.price) ∧
    (∀ f ∈ fs, ∃ b ∈ ((Market.init ops mp fund).runOps ops os).1.buys,
       ∃ s ∈ ((Market.init ops mp fund).runOps ops os).1.sells,
        b.id = f.buyId ∧ s.id = f.sellId ∧
        (∀ pb, b.price = some pb → f.price ≤ pb) ∧ (∀ ps, s.price = some ps → ps ≤ f.price)) := by
  have hinv := inv_runOps ops _ os (inv_init ops mp fund) hv
  refine ⟨single_price ops _ m' fs he, ?_⟩
  intro f hf
  obtain ⟨b, hb, s, hs, h1, h2, _, _, _, _, h3, h4⟩ := price_within_limits ops _ m' fs hinv he f hf
  exact ⟨b, hb, s, hs, h1, h2, h3, h4⟩

/-! Non-vacuity: a concrete crossed book over ℕ prices satisfies the hypotheses and trades. -/
def natOps : PriceOps Nat := { mid := fun a b => (a + b) / 2, addNotional := fun acc v p => acc + v * p, zero := 0, snap := fun _ p => p }

def demo : Market Nat :=
  ((Market.init natOps 100 none).runOps natOps
    [.setRunning false,
     .add { agent := 1, isBuy := false, price := some 99, vol := 2, ttl := none },
     .add { agent := 2, isBuy := false, price := some 101, vol := 1, ttl := none },
     .add { agent := 3, isBuy := true, price := some 102, vol := 3, ttl := none },
     .setRunning true]).1

example : (match demo.execution natOps with
    | .ok (_, fs) => fs.map (fun f => (f.buyId, f.sellId, f.price, f.vol))
    | .error _ => []) = [(2, 0, 101, 2), (2, 1, 101, 1)] := by decide +kernel

/-- the gloss "a price already resting in the book" fails in one corner of code and model alike: a
resting *market* order hit by an incoming limit order trades at the incoming order's price. -/
example : (match ((Market.init natOps 100 none).runOps natOps
      [.setRunning true,
       .add { agent := 1, isBuy := false, price := none, vol := 1, ttl := none },
       .add { agent := 2, isBuy := true, price := some 105, vol := 1, ttl := none }]).1.execution natOps with
    | .ok (_, fs) => fs.map (fun f => (f.buyId, f.sellId, f.price))
    | .error _ => []) = [(1, 0, 105)] := by decide +kernel

/-- (T) the price-selection and break tests of `Market._execution` in the current sources carry the
operators the model transcribes (`<` for the break, `==`/`<`/`>` on the stamps, `<` on placed_at) -/
theorem source_price_selection :
    Pams.Source.opsOf "Market._execution" =
      ["!=", "!=", "==", "==", "==", "==", "==", "==", "is not", "is not", "<", "==", "<", "<", "is", "is",
       "is", "is", "is not", "==", "is", "is", "<", ">", "<", "is"] := by decide

end Pams.C01
