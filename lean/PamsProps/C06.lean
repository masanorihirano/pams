/-
C06 — One lock-step clock; no access to the future; recorded history never changes.
(market level; the runner-level clauses — all markets tick together, index markets after their
components, session spans — are in PamsProps/C06R.lean)
-/
import PamsLemmas.SeriesLemmas
import Mathlib.Data.Nat.Basic

set_option linter.unusedSectionVars false

namespace Pams.C06
open Pams
variable {P : Type} [LinearOrder P]

/-- Queries for a time later than the current time are refused (all eight series are read through
`slotAt`). -/
theorem future_refused (m : Market P) (t : Nat) (h : m.time < t) : m.slotAt t = .error .future := by
  unfold Market.slotAt
  simp [h]

/-- a query for the present or the past of a well-formed market is answered -/
theorem past_answered (m : Market P) (hinv : Inv m) (t : Nat) (h : t ≤ m.time) :
    ∃ s, m.slotAt t = .ok s := by
  by_cases h1 : t = m.time
  · exact ⟨m.cur, by simp [Market.slotAt, h1]⟩
  · rw [slotAt_past m t (by omega), Market.pastAt,
      List.getElem?_eq_getElem (by rw [hinv.past]; omega)]
    exact ⟨_, rfl⟩

/-- The clock advances by exactly one at a clock step (by the requested amount at an explicit
`_set_time` jump) and never otherwise. -/
theorem clock (ops : PriceOps P) (m : Market P) (o : Op P) :
    (m.step ops o).1.time = match o with
      | .tick _ => m.time + 1
      | .jump k _ => m.time + (k + 1)
      | _ => m.time := by
  rw [step_time]
  cases o <;> rfl

/-- Recorded history never changes: whatever operation is performed, every value recorded for a
time strictly before the current time (market, mid, last-trade and fundamental price, executed
volume, turnover, order counts — the whole slot) reads the same afterwards. -/
theorem history_never_changes (ops : PriceOps P) (m : Market P) (hinv : Inv m) (o : Op P)
    (t : Nat) (ht : t < m.time) : (m.step ops o).1.slotAt t = m.slotAt t :=
  slotAt_extend (step_past ops m o).1 (step_past ops m o).2 ht

/-- … and the value that was current when the clock stepped is what is recorded for that time. -/
theorem tick_records_current (ops : PriceOps P) (m : Market P) (hinv : Inv m) (f : Option P) :
    (m.tick ops f).1.slotAt m.time = .ok m.cur := by
  rw [slotAt_past _ m.time (Nat.lt_succ_self _)]
  simp [Market.pastAt, Market.tick]

/-- lifted to whole histories: a value once recorded is read back unchanged after any further
sequence of valid operations -/
theorem history_never_changes_run (ops : PriceOps P) (m : Market P) (hinv : Inv m)
    (os : List (Op P)) (hv : ∀ o ∈ os, o.valid) (t : Nat) (ht : t < m.time) :
    (m.runOps ops os).1.slotAt t = m.slotAt t ∧ m.time ≤ (m.runOps ops os).1.time := by
  obtain ⟨new, h1, h2⟩ := runOps_past ops m os
  exact ⟨slotAt_extend h1 h2 ht, by omega⟩

def natOps : PriceOps Nat := { mid := fun a b => (a + b) / 2, addNotional := fun acc v p => acc + v * p, zero := 0, snap := fun _ p => p }
def demo : Market Nat :=
  ((Market.init natOps 100 (some 100)).runOps natOps
    [.setRunning true,
     .add { agent := 1, isBuy := false, price := some 99, vol := 2, ttl := none },
     .add { agent := 3, isBuy := true, price := some 102, vol := 3, ttl := none }, .exec,
     .tick (some 101), .tick (some 102)]).1
theorem nonvacuous : demo.time = 2 ∧ (demo.slotAt 0).toOption.map (·.last) = some (some 99) ∧
    (demo.slotAt 3).toOption.map (·.last) = none := by decide +kernel

end Pams.C06
