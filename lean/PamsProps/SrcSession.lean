/-
C09 / C18 at the level of the **translated source**: `Session.setup` as it stands in /repo
(PamsLemmas/SrcSession.lean, by symbolic execution).
-/
import PamsLemmas.SrcSession

namespace Pams.C09
open Pams Pams.Py Pams.Src
variable {K : Type} [LinearOrder K] [NumOpsC K]

/-- **the session rules are the configured ones** (current source): after `Session.setup` the length, the
placement / execution / print switches, the two caps and the high-frequency submission rate of the
session object are exactly the configured values — for *every* value, in particular a rate of 0.0, a cap
of 0 and switches that are `False` (no value is treated as "not given"). -/
theorem source_session_parameters (steps : Int) (place exec print : Bool) (maxN maxH : Int) (rate : K)
    (oldN oldH : Int) (oldR : K) :
    resultG sessionObs (rhoSession steps place exec print maxN maxH rate oldN oldH oldR) env FUEL "Session.setup"
        [.ref 8, sNew] sessionSt
      = .tuple [.int steps, .bool place, .bool exec, .bool print, .int maxN, .int maxH, .num rate] :=
  resultG_eq_of_agreeP _ (session_agree (sNew, sessionO (.atom 5) (.atom 6) (.atom 7)) (by simp [sessionCases]))

end Pams.C09

namespace Pams.C18
open Pams Pams.Py Pams.Src
variable {K : Type} [LinearOrder K] [NumOpsC K]

/-- **deprecated session keys set the same parameters as their replacements** (current source):
`maxHifreqOrders` / `hifreqSubmitRate` give the same session object as `maxHighFrequencyOrders` /
`highFrequencySubmitRate` with the same values. -/
theorem source_legacy_session_keys (steps : Int) (place exec print : Bool) (maxN maxH : Int) (rate : K)
    (oldN oldH : Int) (oldR : K) :
    resultG sessionObs (rhoSession steps place exec print maxN maxH rate oldN oldH oldR) env FUEL "Session.setup"
        [.ref 8, sLegacy] sessionSt
      = resultG sessionObs (rhoSession steps place exec print maxN maxH rate oldN oldH oldR) env FUEL "Session.setup"
        [.ref 8, sNew] sessionSt := by
  rw [resultG_eq_of_agreeP _ (session_agree (sLegacy, sessionO (.atom 5) (.atom 6) (.atom 7)) (by simp [sessionCases])),
    resultG_eq_of_agreeP _ (session_agree (sNew, sessionO (.atom 5) (.atom 6) (.atom 7)) (by simp [sessionCases]))]

/-- a deprecated key together with its replacement, a missing required key, a non-integer step count are
reported as errors; without the optional keys the defaults stay -/
theorem source_session_errors_and_defaults (steps : Int) (place exec print : Bool) (maxN maxH : Int) (rate : K)
    (oldN oldH : Int) (oldR : K) :
    (∀ s ∈ [sBothCaps, sBothRates, sNoSteps, sStepsNotInt],
      resultG sessionObs (rhoSession steps place exec print maxN maxH rate oldN oldH oldR) env FUEL "Session.setup"
        [.ref 8, s] sessionSt = .err (.raise "ValueError")) ∧
    resultG sessionObs (rhoSession steps place exec print maxN maxH rate oldN oldH oldR) env FUEL "Session.setup"
        [.ref 8, sMinimal] sessionSt
      = .tuple [.int steps, .bool place, .bool exec, .bool print, .int oldN, .int oldH, .num oldR] :=
  ⟨fun s hs => resultG_eq_of_agreeP _
      (session_agree (s, .err (.raise "ValueError")) (List.mem_append_right _ (List.mem_map_of_mem hs))),
    resultG_eq_of_agreeP _
      (session_agree (sMinimal, sessionO (.atom 81) (.atom 82) (.atom 83)) (by simp [sessionCases]))⟩

end Pams.C18
