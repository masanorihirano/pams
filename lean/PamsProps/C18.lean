/-
C18 — Config expansion: inheritance, counts/ranges, names, random values, aliases.
-/
import PamsLemmas.SourceTie
import PamsModel.Config
import PamsLemmas.FieldArith
import Mathlib.Analysis.SpecialFunctions.Log.Basic
import Mathlib.Tactic.Linarith

namespace Pams.C18
open Pams Pams.Config

theorem lookup_append (k : Nat) (a b : Obj) :
    lookup k (a ++ b) = (lookup k a).orElse (fun _ => lookup k b) := by
  induction a with
  | nil => rfl
  | cons x xs ih => by_cases h : x.1 = k <;> simp [lookup, h, ih]

theorem lookup_map_val (k : Nat) (o : Obj) (f : Nat → Nat → Nat) :
    lookup k (o.map (fun kv => (kv.1, f kv.1 kv.2))) = (lookup k o).map (f k) := by
  induction o with
  | nil => rfl
  | cons x xs ih => by_cases h : x.1 = k <;> simp [lookup, h, ih]

theorem lookup_filter_key (k : Nat) (o : Obj) (p : Nat → Bool) :
    lookup k (o.filter (fun kv => p kv.1)) = if p k then lookup k o else none := by
  induction o with
  | nil => simp [lookup]
  | cons x xs ih =>
    by_cases hx : x.1 = k
    · subst hx; by_cases hp : p x.1 <;> simp [hp, lookup, ih]
    · by_cases hp : p x.1 <;> simp [hp, lookup, hx, ih]

/-- one inheritance step, per key: the entry's own value if it has one, else the parent's -/
theorem merge_lookup (k : Nat) (parent res : Obj) :
    lookup k (merge parent res) = (lookup k res).orElse (fun _ => lookup k parent) := by
  unfold merge
  rw [lookup_append, lookup_map_val k parent (fun key v => (lookup key res).getD v),
    lookup_filter_key k res (fun key => (lookup key parent).isNone)]
  cases lookup k parent <;> cases lookup k res <;> simp

theorem erase_lookup (k k' : Nat) (o : Obj) :
    lookup k (erase k' o) = if k = k' then none else lookup k o := by
  rw [erase, lookup_filter_key k o (fun key => decide (key ≠ k'))]
  by_cases h : k = k' <;> simp [h]

/-- the value inheritance gives key `k ≠ extends`: the entry's own value, else that of the nearest
ancestor defining it, skipping non-inheritable keys (spec, written directly from the property) -/
def inherited (whole : List (Nat × Obj)) (excludes : List Nat) (k : Nat) : Nat → Obj → Option Nat
  | fuel, res =>
    match lookup k res with
    | some v => some v
    | none =>
      match lookup 0 res, fuel with
      | some cls, fuel + 1 =>
        match lookupObj cls whole with
        | some parent =>
          inherited whole excludes k fuel (parent.filter (fun kv => !excludes.contains kv.1))
        | none => none
      | _, _ => none

section
variable {whole : List (Nat × Obj)} {excludes : List Nat} {k fuel : Nat} {res : Obj}

theorem inherited_own {v : Nat} (hv : lookup k res = some v) :
    inherited whole excludes k fuel res = some v := by
  cases fuel <;> (unfold inherited; rw [hv])

theorem inherited_root (hl : lookup 0 res = none) : inherited whole excludes k fuel res = lookup k res := by
  cases fuel <;> (unfold inherited; rw [hl]; cases lookup k res <;> rfl)

theorem inherited_step {cls : Nat} {parent : Obj} (hv : lookup k res = none) (hl : lookup 0 res = some cls)
    (hp : lookupObj cls whole = some parent) :
    inherited whole excludes k (fuel + 1) res =
      inherited whole excludes k fuel (parent.filter (fun kv => !excludes.contains kv.1)) := by
  conv_lhs => unfold inherited
  simp only [hv, hl, hp]

theorem inherited_congr {o1 o2 : Obj} (h1 : lookup k o1 = lookup k o2) (h2 : lookup 0 o1 = lookup 0 o2) :
    inherited whole excludes k fuel o1 = inherited whole excludes k fuel o2 := by
  cases fuel <;> (unfold inherited; rw [h1, h2])

end

/-- (a) Inheritance yields the entry's own keys, then for each remaining key the value of the nearest
ancestor defining it, skipping non-inheritable keys: whenever the loop returns normally, every key
other than `extends` has exactly the inherited value, and `extends` itself is gone. -/
theorem extends_nearest_ancestor (whole : List (Nat × Obj)) (excludes : List Nat) (fuel : Nat)
    (hist : List Nat) (res r : Obj) (h : extendsLoop whole excludes fuel hist res = .ok r)
    (k : Nat) (hk : k ≠ 0) :
    lookup k r = inherited whole excludes k fuel res ∧ lookup 0 r = none := by
  fun_induction extendsLoop whole excludes fuel hist res with
  | case1 fuel hist res hl => cases h; exact ⟨(inherited_root hl).symm, hl⟩
  | case2 | case3 | case4 => cases h
  | case5 hist res cls hl fuel parent hp hc ih =>
    refine ⟨(ih h).1.trans ?_, (ih h).2⟩
    -- the merged object answers `k` as `res` does, else as the filtered parent; `extends` as the parent
    have e1 : lookup k (merge (parent.filter (fun kv => !excludes.contains kv.1)) (erase 0 res)) =
        (lookup k res).orElse (fun _ => lookup k (parent.filter (fun kv => !excludes.contains kv.1))) := by
      rw [merge_lookup, erase_lookup, if_neg hk]
    have e0 : lookup 0 (merge (parent.filter (fun kv => !excludes.contains kv.1)) (erase 0 res)) =
        lookup 0 (parent.filter (fun kv => !excludes.contains kv.1)) := by
      rw [merge_lookup, erase_lookup, if_pos rfl]; rfl
    cases hv : lookup k res with
    | some v => rw [inherited_own hv, inherited_own (by rw [e1, hv]; rfl)]
    | none => rw [inherited_step hv hl hp]; exact inherited_congr (by rw [e1, hv]; rfl) e0

/-- in particular the entry's own keys always win -/
theorem extends_own_keys (whole : List (Nat × Obj)) (parentName : Nat) (target r : Obj)
    (excludes : List Nat) (h : jsonExtends whole parentName target excludes = .ok r)
    (k v : Nat) (hk : k ≠ 0) (hv : lookup k target = some v) : lookup k r = some v :=
  (extends_nearest_ancestor whole excludes _ _ target r h k hk).1.trans (inherited_own hv)

/-- Missing parents and cycles are reported as errors at the first offending link: a link to a
name that is not in the configuration is `missing`; a link to a name already in the chain
(including the entry's own name) is `cycle`. -/
theorem extends_errors (whole : List (Nat × Obj)) (excludes : List Nat) (fuel : Nat) (hist : List Nat)
    (res : Obj) (cls : Nat) (hl : lookup 0 res = some cls) :
    (lookupObj cls whole = none → extendsLoop whole excludes (fuel + 1) hist res = .error .missing) ∧
    (lookupObj cls whole ≠ none → cls ∈ hist →
        extendsLoop whole excludes (fuel + 1) hist res = .error .cycle) := by
  unfold extendsLoop
  simp only [hl]
  cases lookupObj cls whole with
  | none => exact ⟨fun _ => rfl, fun h => absurd rfl h⟩
  | some parent => exact ⟨nofun, fun _ hc => if_pos hc⟩

theorem lookupObj_mem {whole : List (Nat × Obj)} {n : Nat} {o : Obj} (h : lookupObj n whole = some o) :
    n ∈ whole.map (·.1) := by
  obtain ⟨x, hf, _⟩ := Option.map_eq_some_iff.mp h
  exact List.mem_map.mpr ⟨x, List.mem_of_find?_eq_some hf, by simpa using List.find?_some hf⟩

/-- the loop never runs out of fuel: the names followed (after the entry's own) are pairwise
distinct names of the configuration, so there are at most `whole.length` of them -/
theorem loop_no_fuel_error (whole : List (Nat × Obj)) (excludes : List Nat) :
    ∀ (fuel : Nat) (hist : List Nat) (res : Obj),
      hist ≠ [] → hist.Nodup → (∀ n ∈ hist.tail, n ∈ whole.map (·.1)) →
      whole.length + 1 ≤ fuel + hist.tail.length →
      extendsLoop whole excludes fuel hist res ≠ .error .fuel := by
  intro fuel hist res hne hnd hin hlen
  fun_induction extendsLoop whole excludes fuel hist res with
  | case1 | case3 | case4 => nofun
  | case2 hist res cls hl =>
    have := ((hnd.sublist hist.tail_sublist).subperm hin).length_le
    rw [List.length_map] at this
    omega
  | case5 hist res cls hl fuel parent hp hc ih =>
    have htail : (hist ++ [cls]).tail = hist.tail ++ [cls] := List.tail_append_of_ne_nil hne
    refine ih (by simp) (List.nodup_append.mpr ⟨hnd, List.nodup_singleton _, ?_⟩) ?_ ?_
    · intro a ha b hb
      rw [List.mem_singleton.mp hb]
      exact fun e => hc (e ▸ ha)
    · intro n hn
      rcases List.mem_append.mp (htail ▸ hn) with h | h
      · exact hin n h
      · exact List.mem_singleton.mp h ▸ lookupObj_mem hp
    · rw [htail, List.length_append, List.length_singleton]; omega

/-- Inheritance terminates for every configuration — chains, diamonds through repeated parents,
cycles, missing parents — with a result or one of the two documented errors, never by running on. -/
theorem extends_terminates (whole : List (Nat × Obj)) (parentName : Nat) (target : Obj)
    (excludes : List Nat) :
    (∃ r, jsonExtends whole parentName target excludes = .ok r) ∨
    jsonExtends whole parentName target excludes = .error .missing ∨
    jsonExtends whole parentName target excludes = .error .cycle := by
  have h := loop_no_fuel_error whole excludes (whole.length + 1) [parentName] target (by simp)
    (by simp) (by simp) (by simp)
  unfold jsonExtends
  match hr : extendsLoop whole excludes (whole.length + 1) [parentName] target with
  | .ok r => exact .inl ⟨r, rfl⟩
  | .error .missing => exact .inr (.inl rfl)
  | .error .cycle => exact .inr (.inr rfl)
  | .error .fuel => exact absurd hr h

/-- (b) A group declared with a count or an inclusive id range creates exactly that many entities with
consecutive ids starting at the running counter and pairwise distinct names. -/
theorem expand_count_ids_names (counter : Nat) (spec : GroupSpec) :
    (expand counter spec).length =
      (match spec with | .single => 1 | .count n => n | .range lo hi => hi + 1 - lo) ∧
    (∀ j, (h : j < (expand counter spec).length) → ((expand counter spec)[j]).id = counter + j) ∧
    ((expand counter spec).map (fun e => (e.dash, e.suffix))).Nodup := by
  have key : ∀ (lo n : Nat),
      let es := (List.range n).map (fun j =>
        ({ id := counter + j, dash := decide (1 < n), suffix := if n ≠ 1 then some (lo + j) else none } : Entity))
      es.length = n ∧ (∀ j, (h : j < es.length) → (es[j]).id = counter + j) ∧
      (es.map (fun e => (e.dash, e.suffix))).Nodup := by
    intro lo n
    refine ⟨by simp, ?_, ?_⟩
    · intro j h; simp
    · rw [List.map_map]
      by_cases h1 : n = 1
      · subst h1; simp
      · apply List.Nodup.map_on _ List.nodup_range
        intro a _ b _ hab
        simp only [Function.comp, h1, ne_eq, not_false_eq_true, ↓reduceIte, Prod.mk.injEq,
          Option.some.injEq, true_and] at hab
        omega
  unfold expand
  rcases spec with _ | n | ⟨lo, hi⟩
  · exact key 0 1
  · exact key 0 n
  · exact key lo (hi + 1 - lo)

theorem expand_id_range (c : Nat) (s : GroupSpec) :
    ∀ a ∈ expand c s, c ≤ a.id ∧ a.id < c + (expand c s).length := by
  intro a ha
  obtain ⟨j, hj, rfl⟩ := List.getElem_of_mem ha
  rw [(expand_count_ids_names c s).2.1 j hj]
  omega

/-- consecutive groups continue the id sequence: the registries therefore never see a repeated id -/
theorem expand_ids_disjoint (c : Nat) (s1 s2 : GroupSpec) :
    ∀ a ∈ expand c s1, ∀ b ∈ expand (c + (expand c s1).length) s2, a.id < b.id :=
  fun a ha b hb => Nat.lt_of_lt_of_le (expand_id_range c s1 a ha).2 (expand_id_range _ s2 b hb).1

/-- (c) agents can access exactly the markets of the groups they list -/
theorem access_union (groups : Nat → List Nat) (listed : List Nat) (m : Nat) :
    m ∈ accessible groups listed ↔ ∃ g ∈ listed, m ∈ groups g := by
  simp [accessible, List.mem_flatMap]

section
variable {K : Type} [Field K] [LinearOrder K] [IsStrictOrderedRing K]

/-- (d) randomised values fall in the documented support.  Uniform: for a draw `u ∈ [0,1)` and `lo < hi`, `lo ≤ u (hi - lo) + lo < hi` -/
theorem uniform_support (u lo hi : K) (h0 : 0 ≤ u) (h1 : u < 1) (hl : lo < hi) :
    lo ≤ uniform u lo hi ∧ uniform u lo hi < hi := by
  unfold uniform
  have hd : 0 < hi - lo := sub_pos.mpr hl
  exact ⟨le_add_of_nonneg_left (mul_nonneg h0 hd.le), by linarith [mul_lt_mul_of_pos_right h1 hd]⟩
end

/-- exponential: for a draw `u ∈ (0,1)` and `λ > 0`, `λ · (−log u) > 0` -/
theorem expon_support (u lam : ℝ) (h0 : 0 < u) (h1 : u < 1) (hl : 0 < lam) :
    0 < lam * -Real.log u :=
  mul_pos hl (neg_pos.mpr (Real.log_neg h0 h1))

/-- (e) class names resolve to exactly one class -/
theorem findClass_unique (builtins registered : List (Nat × Nat)) (name c : Nat)
    (h : findClass builtins registered name = some c) :
    (builtins.filter (fun x => x.1 = name) ++ registered.filter (fun x => x.1 = name)) = [(name, c)] := by
  unfold findClass at h
  split at h
  · rename_i x hl
    have hm := List.mem_singleton_self x
    rw [← hl, List.mem_append, List.mem_filter, List.mem_filter] at hm
    rw [hl, ← of_decide_eq_true (hm.elim (·.2) (·.2)), ← Option.some.inj h]
  · cases h

/-- (f) deprecated spellings set the same parameter as their replacement -/
theorem legacy_same_param (v : Nat) (otherMax otherRate : Option Nat) :
    sessionSetup none (some v) otherRate none = sessionSetup (some v) none otherRate none ∧
    sessionSetup otherMax none none (some v) = sessionSetup otherMax none (some v) none := by
  constructor
  · rcases otherRate with _ | r <;> rfl
  · rcases otherMax with _ | m <;> rfl

def demoWhole : List (Nat × Obj) :=
  [(10, [(1, 100), (2, 200)]), (11, [(0, 10), (2, 201), (3, 300)]), (12, [(0, 11), (3, 301)]),
   (13, [(0, 14)]), (14, [(0, 13)])]
theorem nonvacuous :
    jsonExtends demoWhole 12 [(0, 11), (3, 301)] [] = .ok [(1, 100), (2, 201), (3, 301)] ∧
    jsonExtends demoWhole 13 [(0, 14)] [] = .error .cycle ∧
    jsonExtends demoWhole 99 [(0, 55)] [] = .error .missing ∧
    (expand 7 (.range 3 4)).map (fun e => (e.id, e.suffix)) = [(7, some 3), (8, some 4)] := by
  decide +kernel

/-- (T) `Session.setup` in the current sources: which attribute each settings key is assigned to; the
deprecated spellings are assigned to the same attribute as their replacement -/
theorem source_session_keys :
    Pams.Source.attrOf "maxHifreqOrders" = Pams.Source.attrOf "maxHighFrequencyOrders" ∧
    Pams.Source.attrOf "hifreqSubmitRate" = Pams.Source.attrOf "highFrequencySubmitRate" ∧
    Pams.Source.attrOf "maxHighFrequencyOrders" = some "max_high_frequency_orders" ∧
    Pams.Source.attrOf "highFrequencySubmitRate" = some "high_frequency_submission_rate" ∧
    Pams.Source.attrOf "maxNormalOrders" = some "max_normal_orders" ∧
    Pams.Source.opsOf "json_extends" = ["is not", "in", "not in", "in", "not in"] := by decide +kernel

end Pams.C18
