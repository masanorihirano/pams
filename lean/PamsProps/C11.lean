/-
C11 — Agent callbacks: each party told exactly once of its orders, cancels, fills.
-/
import PamsLemmas.RunnerLemmas
import PamsLemmas.SourceTie

namespace Pams.C11
open Pams.Runner

/-- the callback events of a trace fragment -/
def callbacks (tr : List Ev) : List Ev := tr.filter Ev.isCallback

/-- the notifications one fill gives rise to: buyer then seller, each with that fill's record -/
def fillCallbacks : List RFill → List Ev
  | [] => []
  | f :: fs => Ev.cbExecuted f.buyer f.ref :: Ev.cbExecuted f.seller f.ref :: fillCallbacks fs

theorem callbacks_fillEvents (t : Nat) (fs : List RFill) :
    callbacks (fillEvents t fs) = fillCallbacks fs := by
  induction fs with
  | nil => rfl
  | cons f fs ih =>
    simp only [fillEvents, callbacks, List.cons_append, List.nil_append, List.filter_cons,
      Ev.isCallback, ↓reduceIte, Bool.false_eq_true, fillCallbacks] at ih ⊢
    rw [ih]

/-- Exactly-once notification for one processed request: the owner is told once of the accepted
order (or cancel); if a round follows, every fill of it yields exactly one notification to the
buyer and one to the seller (two to the same agent for a self-trade), in fill order; nothing else.
A refused request yields no notification. -/
theorem request_callbacks (t : Nat) (flag : Bool) (r : Request) :
    callbacks (processRequest t flag r).tr =
      if !r.accepted then []
      else
        (if r.isCancel then [Ev.cbCanceled r.owner r.ref] else [Ev.cbSubmitted r.owner r.ref]) ++
        (if flag then (match r.fills with | some fs => fillCallbacks fs | none => []) else []) := by
  rw [processRequest_tr]
  unfold ownEvents
  cases r.isCancel <;> cases r.accepted <;> cases flag <;> try rfl
  all_goals cases r.fills <;> first | rfl | exact congrArg (_ :: ·) (callbacks_fillEvents t _)

/-- The notifications of a round come after the ledger update of the *whole* round: in the trace
of a processed request every `cbExecuted` is preceded by the round's `ledger` event, which lists
all fills of the round; the owner's `cbSubmitted`/`cbCanceled` comes after the market call and
before the after-hook. -/
theorem callbacks_after_ledger (t : Nat) (r : Request) (fs : List RFill)
    (ha : r.accepted = true) (hf : r.fills = some fs) :
    ∃ pre, (processRequest t true r).tr = pre ++ Ev.ledger (fs.map (·.ref)) :: fillEvents t fs ∧
      (∀ e ∈ pre, ∀ a ref, e ≠ Ev.cbExecuted a ref) ∧
      callbacks (fillEvents t fs) = fillCallbacks fs := by
  refine ⟨ownEvents t r ++ [Ev.execution r.market], by simp [processRequest_round ha hf],
    List.forall_mem_append.mpr ⟨ownEvents_all (fun _ => ⟨nofun, nofun, nofun, nofun⟩)
      fun _ => ⟨nofun, nofun, nofun, nofun⟩, ?_⟩, callbacks_fillEvents t fs⟩
  simp

/-- No agent is notified about an event it is not a party to: every callback of a processed request
names the request's owner, or the buyer or seller of one of the round's fills. -/
theorem only_parties (t : Nat) (flag : Bool) (r : Request) :
    ∀ e ∈ (processRequest t flag r).tr, match e with
      | .cbSubmitted a ref => a = r.owner ∧ ref = r.ref ∧ r.isCancel = false
      | .cbCanceled a ref => a = r.owner ∧ ref = r.ref ∧ r.isCancel = true
      | .cbExecuted a ref => ∃ fs, r.fills = some fs ∧ ∃ f ∈ fs, f.ref = ref ∧ (a = f.buyer ∨ a = f.seller)
      | _ => True :=
  processRequest_all (ownEvents_all (fun h => ⟨trivial, trivial, ⟨rfl, rfl, h⟩, trivial⟩)
    fun h => ⟨trivial, trivial, ⟨rfl, rfl, h⟩, trivial⟩) trivial fun _ =>
    ⟨trivial, fun fs hfs => ⟨trivial, fillEvents_all fun f hf =>
      ⟨⟨fs, hfs, f, hf, rfl, .inl rfl⟩, ⟨fs, hfs, f, hf, rfl, .inr rfl⟩, trivial⟩⟩⟩

/-- the glue of the scheduler (collection, step frame, clock) never notifies anybody -/
theorem glue_has_no_callbacks (hft : Bool) (cap : Int) (answer : Nat → List Request) (as : List Nat)
    (n : Nat) (t : Nat) (resume : Nat → Bool) (ms : Markets) (flag : Bool) :
    callbacks (collect hft cap answer as n).1 = [] ∧ callbacks (stepBefore t resume ms flag).1 = [] ∧
    callbacks (stepAfter t ms) = [] ∧ callbacks (ticks ms) = [] := by
  have frame : ∀ tr : List Ev, (∀ e ∈ tr, e.isFrame = true) → callbacks tr = [] := fun tr h =>
    List.filter_eq_nil_iff.mpr fun e he => by simp [(frame_not_other (h e he)).2.2.1]
  exact ⟨List.filter_eq_nil_iff.mpr (collect_all (fun _ => nofun) nofun),
    frame _ stepBefore_frame, frame _ stepAfter_frame, frame _ ticks_frame⟩

/-! Non-vacuity: a self-trade and a second fill in one round -/
def demoFills : List RFill :=
  [{ buyer := 4, seller := 4, ref := 0, halts := false }, { buyer := 4, seller := 2, ref := 1, halts := false }]
def demo : Request :=
  { owner := 4, market := 1, isCancel := false, ref := 9, accepted := true, fills := some demoFills }
theorem nonvacuous : callbacks (processRequest 3 true demo).tr =
    [.cbSubmitted 4 9, .cbExecuted 4 0, .cbExecuted 4 0, .cbExecuted 4 1, .cbExecuted 2 1] := by decide +kernel

/-- (T) **the treatment of a request in the current sources is the model's**: for both copies of
the request loop of `_handle_orders` (normal and high-frequency branch), for orders and cancels,
with execution on and off, the calls and agent look-ups of the source in evaluation order (symbolic
walk by the translator: hook, market call, owner look-up and notification, hook; then round, ledger
update for the whole round, and per fill buyer look-up and notification, seller look-up and
notification, hook) are exactly the model's trace of `processRequest`.  Moving the ledger update
into the per-fill loop, swapping a hook and the market call, dropping a look-up or letting the two
copies drift apart makes this fail to compile. -/
theorem source_request_paths :
    ∀ x ∈ PamsGen.requestPaths, x.2.2.2 = Pams.Source.modelPath x.2.1 x.2.2.1 := by decide +kernel

theorem source_request_paths_complete :
    PamsGen.requestPaths.map (fun x => (x.1, x.2.1, x.2.2.1)) =
      [("normal", false, true), ("normal", false, false), ("normal", true, true), ("normal", true, false),
       ("hft", false, true), ("hft", false, false), ("hft", true, true), ("hft", true, false)] := by decide +kernel

end Pams.C11
