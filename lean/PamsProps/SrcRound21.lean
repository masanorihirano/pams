/-
C01 / C02 at the level of the **translated source**, for a round with two fills: `Market._execution` as
it stands in /repo on a sorted book of two limit buy orders `[a, c]` and one sell order `[b]`
(`Src.execution21_src_round`: the source computes the spelled-out round `round21`, which `Src.execution21_src`
identifies with the model's `Market.execution`; by symbolic execution with order-reasoning path pruning).
-/
import PamsLemmas.SrcMarket21
import PamsProps.SrcAccept

namespace Pams.C01
open Pams Pams.Py Pams.Src Pams.SrcAccept
variable {K : Type} [LinearOrder K] [NumOpsC K]

/-- **source = model for a round over two bids and one ask** (restated from `Src.execution21_src`). -/
theorem source_round_two_bids (m : Market K) (a c b : Order K) (pa pc pb mp dflt : K)
    (hb : m.buys = [a, c]) (hs : m.sells = [b]) (ha : a.isBuy = true) (hc : c.isBuy = true) (hbs : b.isBuy = false)
    (hpa : a.price = some pa) (hpc : c.price = some pc) (hpb : b.price = some pb) (ht : m.time = 0)
    (hl : m.cur.last = none) (hmid : m.cur.mid = none) (hmk : m.cur.market = some mp)
    (hva : a.vol ≠ 0) (hvc : c.vol ≠ 0) (hvb : b.vol ≠ 0) (hab : a.id ≠ b.id) (hcb : c.id ≠ b.id) (hac : a.id ≠ c.id)
    (hr : m.running = true) (h2 : (NumOpsC.ofInt 2 : K) ≠ NumOpsC.ofInt 0) (hprio : outranks a c pa pc) :
    resultG execObs21 (rhoM21 m a c b dflt) env 300 "Market._execution" [.ref 5] (st21 true)
      = modelObs21 a c (Market.execution (srcOps K) m) :=
  execution21_src m a c b pa pc pb mp dflt hb hs ha hc hbs hpa hpc hpb ht hl hmid hmk hva hvc hvb hab hcb hac hr h2 hprio

-- `hb hs ha hc hbs` name the whole setting; the state `st21` and the round `round21` speak of `a`, `c`, `b` alone
set_option linter.unusedVariables false in
/-- **all fills of one round carry one common price, the one of the last matched pair** (current
source): when the ask `b` is larger than the best bid `a` and still crosses the next bid `c`, the round
returns exactly two fills — `a` for its whole volume, then `c` — and *both* carry `pairPrice c b`, the
price the second pair proposes (the earlier-accepted of `c` and `b`); that price lies within the limits
of all three orders: `pb ≤ price ≤ pc ≤ pa`. -/
theorem source_two_fills_one_price (m : Market K) (a c b : Order K) (pa pc pb mp dflt : K)
    (hb : m.buys = [a, c]) (hs : m.sells = [b]) (ha : a.isBuy = true) (hc : c.isBuy = true) (hbs : b.isBuy = false)
    (hpa : a.price = some pa) (hpc : c.price = some pc) (hpb : b.price = some pb) (ht : m.time = 0)
    (hl : m.cur.last = none) (hmid : m.cur.mid = none) (hmk : m.cur.market = some mp)
    (hva : a.vol ≠ 0) (hvc : c.vol ≠ 0) (hvb : b.vol ≠ 0) (hab : a.id ≠ b.id) (hcb : c.id ≠ b.id) (hac : a.id ≠ c.id)
    (hr : m.running = true) (h2 : (NumOpsC.ofInt 2 : K) ≠ NumOpsC.ofInt 0) (hprio : outranks a c pa pc)
    (hbig : a.vol < b.vol) (hcross : pb ≤ pc) :
    ∃ price : K, pairPrice c b = some price ∧ pb ≤ price ∧ price ≤ pc ∧ pc ≤ pa ∧
      cnth (resultG execObs21 (rhoM21 m a c b dflt) env 300 "Market._execution" [.ref 5] (st21 true)) 0 =
        .tuple [ .tuple [.num price, .int a.vol, .int a.id, .int b.id, .int a.agent, .int b.agent, .int m.time],
                 .tuple [.num price, .int (min c.vol (b.vol - a.vol) : Nat), .int c.id, .int b.id, .int c.agent,
                         .int b.agent, .int m.time] ] := by
  have hpapc : pc ≤ pa := by
    rcases hprio with h | h | h
    exacts [le_of_lt h, le_of_eq h.1.symm, le_of_eq h.1.symm]
  obtain ⟨price, hp, h1, h3⟩ : ∃ price, pairPrice c b = some price ∧ pb ≤ price ∧ price ≤ pc := by
    simp only [pairPrice, hpc, hpb]
    split_ifs <;> simp [hcross]
  refine ⟨price, hp, h1, h3, hpapc, ?_⟩
  have hres := execution21_src_round m a c b pa pc mp dflt hpa hpc ht hl hmid hmk hva hvc hvb hab hcb hac hr h2 hprio
  simp only [hpb, Option.isSome_some] at hres
  obtain ⟨p1, hp1⟩ := pairPrice_isSome a b (by simp [hpa])
  have hex : remainExecutable [a, c] [b] = true := by simp [remainExecutable, hpa, hpb, le_trans hcross hpapc]
  have hnc : noCross c b = false := by simp [noCross, hpc, hpb, hcross]
  rw [hres]
  simp [round21, first21, second21, twoFills21, atPrice, obs21, cnth, hex, hnc, hp1, hp, Nat.lt_asymm hbig,
    Nat.ne_of_gt hbig]

end Pams.C01

namespace Pams.C02
open Pams Pams.Py Pams.Src Pams.SrcAccept
variable {K : Type} [LinearOrder K] [NumOpsC K]

set_option linter.unusedVariables false in
/-- **fills follow priority inside a round** (current source): the second bid `c` receives a fill only
after the best bid `a` has been filled completely — whenever the ask is not larger than `a`, `c` keeps
its whole volume; and when the ask is larger, `a` is left with volume 0. -/
theorem source_round_priority (m : Market K) (a c b : Order K) (pa pc pb mp dflt : K)
    (hb : m.buys = [a, c]) (hs : m.sells = [b]) (ha : a.isBuy = true) (hc : c.isBuy = true) (hbs : b.isBuy = false)
    (hpa : a.price = some pa) (hpc : c.price = some pc) (hpb : b.price = some pb) (ht : m.time = 0)
    (hl : m.cur.last = none) (hmid : m.cur.mid = none) (hmk : m.cur.market = some mp)
    (hva : a.vol ≠ 0) (hvc : c.vol ≠ 0) (hvb : b.vol ≠ 0) (hab : a.id ≠ b.id) (hcb : c.id ≠ b.id) (hac : a.id ≠ c.id)
    (hr : m.running = true) (h2 : (NumOpsC.ofInt 2 : K) ≠ NumOpsC.ofInt 0) (hprio : outranks a c pa pc)
    (hex : pb ≤ pa) :
    let res := resultG execObs21 (rhoM21 m a c b dflt) env 300 "Market._execution" [.ref 5] (st21 true)
    (b.vol ≤ a.vol → cnth res 2 = .int c.vol) ∧ (a.vol < b.vol → cnth res 1 = .int 0) := by
  intro res
  have hres : res = round21 m a c b := by
    have := execution21_src_round m a c b pa pc mp dflt hpa hpc ht hl hmid hmk hva hvc hvb hab hcb hac hr h2 hprio
    simpa only [hpb, Option.isSome_some] using this
  obtain ⟨p1, hp1⟩ := pairPrice_isSome a b (by simp [hpa])
  obtain ⟨p2, hp2⟩ := pairPrice_isSome c b (by simp [hpc])
  rw [hres]
  simp only [round21, remainExecutable, hpa, hpb, hex, decide_true, Bool.true_eq_false, if_false, hp1, atPrice, first21]
  constructor
  · intro hle
    rcases Nat.lt_or_eq_of_le hle with h | h <;> simp [h, obs21, cnth]
  · intro hlt
    by_cases hnc : noCross c b = true
    · simp [Nat.lt_asymm hlt, Nat.ne_of_gt hlt, second21, hnc, obs21, cnth]
    · simp [Nat.lt_asymm hlt, Nat.ne_of_gt hlt, second21, hnc, hp2, atPrice, twoFills21, obs21, cnth]

end Pams.C02
