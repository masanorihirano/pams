/-
C09 — Session rules: placement/execution switches, order caps, HFT interleaving.

Statements are about the scheduler model `Pams.Runner` (PamsModel/Runner.lean), for all session
lists, tapes (permutations, uniform draws), agent programs (`answer`) and market answers.
-/
import PamsLemmas.SourceTie
import PamsLemmas.RunnerLemmas

namespace Pams.C09
open Pams.Runner

/-- (a) In a step of a session without order placement no agent is asked for orders and nothing is
handed to a market: the step consists of the step frame only (before-step hooks, step records,
after-step hooks, clock). -/
theorem no_placement_step (ms : Markets) (cfg : SessionCfg) (t : Nat) (flag : Bool) (tape : StepTape)
    (hp : cfg.placement = false) :
    ∀ e ∈ (runStep ms cfg t flag tape).tr,
      e.isFrame = true ∧ e.isConsult = false ∧ e.isCall = false :=
  (runStep_sat (q := fun _ => True)
    (fun e h => ⟨h, (frame_not_other h).2.1, (frame_not_other h).1⟩)
    ⟨by simp [stepBody, hp], trivial⟩).1

/-- (b1) While the execution flag is off and no before-step handler switches it on (only the
trading-halt rule ever does), a whole run of steps requests no matching round — hence no fill —
whatever agents, events and markets do, and the flag is still off afterwards. -/
theorem no_round_without_execution (ms : Markets) (cfg : SessionCfg) (t : Nat)
    (tapes : List StepTape) (n : Nat)
    (hres : ∀ tape ∈ tapes, ∀ m ∈ ms, tape.resume m.1 = false) :
    (∀ e ∈ (runSteps ms cfg t false tapes n).tr, e.isExec = false) ∧
    (runSteps ms cfg t false tapes n).flag = false := by
  induction n generalizing t tapes with
  | zero => simp [runSteps]
  | succ n ih =>
    refine Out.Sat.andThen (q := (· = false)) (runStep_flag_off ?_) fun hfl =>
      hfl ▸ ih (t + 1) tapes.tail fun tape ht => hres tape (List.mem_of_mem_tail ht)
    cases tapes with
    | nil => exact fun _ _ => rfl
    | cons x xs => exact hres x List.mem_cons_self

/-- … in particular a session configured without order execution produces no matching round. -/
theorem session_without_execution (ms : Markets) (k : Nat) (cfg : SessionCfg) (start : Nat)
    (tapes : List StepTape) (hx : cfg.execution = false)
    (hres : ∀ tape ∈ tapes, ∀ m ∈ ms, tape.resume m.1 = false) :
    ∀ e ∈ (runSession ms k cfg start tapes).tr, e.isExec = false := by
  rw [runSession_eq, hx]
  simp only [List.forall_mem_append, List.forall_mem_map]
  refine ⟨⟨⟨by simp [Ev.isExec], fun _ _ => rfl⟩,
    (no_round_without_execution ms cfg start tapes cfg.steps hres).1⟩, ?_⟩
  split <;> simp [Ev.isExec]

/-- (b2) With the flag on, an accepted order or cancel on market `m` is followed — right after the
owner's callback and the after-hook — by a matching round on that same market, then the ledger
update for the whole round, then the per-fill notifications. -/
theorem round_follows_accept (t : Nat) (r : Request) (fs : List RFill)
    (ha : r.accepted = true) (hf : r.fills = some fs) :
    (processRequest t true r).tr =
      (if r.isCancel then [Ev.hookCancelBefore r.ref t, Ev.cancel r.market r.ref,
                           Ev.cbCanceled r.owner r.ref, Ev.hookCancelAfter r.ref t]
       else [Ev.hookOrderBefore r.ref t, Ev.addOrder r.market r.ref,
             Ev.cbSubmitted r.owner r.ref, Ev.hookOrderAfter r.ref t])
      ++ [Ev.execution r.market, Ev.ledger (fs.map (·.ref))] ++ fillEvents t fs :=
  processRequest_round ha hf

/-- with the flag off the same request is accepted (placement still works) but no round follows -/
theorem no_round_when_off (t : Nat) (r : Request) (ha : r.accepted = true) :
    (processRequest t false r).tr =
      (if r.isCancel then [Ev.hookCancelBefore r.ref t, Ev.cancel r.market r.ref,
                           Ev.cbCanceled r.owner r.ref, Ev.hookCancelAfter r.ref t]
       else [Ev.hookOrderBefore r.ref t, Ev.addOrder r.market r.ref,
             Ev.cbSubmitted r.owner r.ref, Ev.hookOrderAfter r.ref t]) := by
  rw [processRequest_tr, if_pos ha, if_neg Bool.false_ne_true, List.append_nil]
  rfl

/-- the flag is switched off exactly by an after-execution handler (trading halt) -/
theorem flag_after_fills (flag : Bool) (fs : List RFill) :
    flagAfterFills flag fs = (flag && !(fs.any (·.halts))) := by
  induction fs generalizing flag with
  | nil => simp [flagAfterFills]
  | cons f fs ih =>
    simp only [flagAfterFills, List.any_cons]
    rw [ih]
    cases flag <;> cases f.halts <;> simp

/-- (c) Normal agents: the agents consulted in a step form a prefix of the drawn permutation (each
at most once), at most `maxNormalOrders` non-empty batches are collected — none at all, and nobody
is consulted, when the cap is ≤ 0 — and a collection that is not aborted ends only at the end of the
permutation or with the cap reached; every collected batch is the consulted agent's own answer and
names only that agent. -/
theorem normal_prefix_cap (cap : Int) (answer : Nat → List Request) (perm : List Nat) :
    let r := collect false cap answer perm 0
    (∃ k, consulted r.1 = perm.take k ∧
      (r.2.1 = true → (k = perm.length ∨ (r.2.2.length : Int) ≥ cap))) ∧
    (cap ≤ 0 → r.1 = [] ∧ r.2.2 = []) ∧
    (0 ≤ cap → (r.2.2.length : Int) ≤ cap) ∧
    (∀ b ∈ r.2.2, b.1 ∈ perm ∧ b.2 = answer b.1 ∧ b.2 ≠ [] ∧ ∀ q ∈ b.2, q.owner = b.1) := by
  simpa only [Int.natCast_zero, Int.zero_add, ge_iff_le] using collect_spec false cap answer perm 0

/-- (d) After each processed normal batch the high-frequency agents are consulted iff the drawn
uniform does not exceed the configured rate (`go`), along a fresh permutation. -/
theorem hft_interleave (t : Nat) (maxHft : Int) (a : Nat) (batch : List Request)
    (bs : List (Nat × List Request)) (rt : RoundTape) (rts : List RoundTape) (flag : Bool) :
    handle t maxHft ((a, batch) :: bs) (rt :: rts) flag =
      (processBatch t flag batch).andThen (fun fl =>
        (if rt.go then hftRound t maxHft rt.answer rt.perm 0 fl
         else { tr := [], ok := true, flag := fl }).andThen (fun fl2 => handle t maxHft bs rts fl2)) := by
  simp [handle]

/-- the high-frequency cap: with a cap ≤ 0 no high-frequency agent is consulted -/
theorem hft_cap_zero (t : Nat) (cap : Int) (answer : Nat → List Request) (perm : List Nat)
    (flag : Bool) (h : cap ≤ 0) : (hftRound t cap answer perm 0 flag).tr = [] := by
  cases perm with
  | nil => simp [hftRound]
  | cons a as =>
    unfold hftRound
    have : ((0 : Nat) : Int) ≥ cap := by simpa using h
    rw [if_pos this]

/-! Non-vacuity: a step with two normal agents, cap 1, execution on -/
def demoReq : Request := { owner := 7, market := 0, isCancel := false, ref := 1, accepted := true,
                           fills := some [{ buyer := 7, seller := 3, ref := 0, halts := false }] }
def demoTape : StepTape :=
  { resume := fun _ => false, perm := [7, 3], answer := fun a => if a = 7 then [demoReq] else [],
    shuffle := [0], rounds := [{ go := false, perm := [], answer := fun _ => [] }] }
theorem nonvacuous :
    (runStep [(0, false)] { steps := 1, placement := true, execution := true, maxNormal := 1, maxHft := 0 }
        5 true demoTape).tr =
      [.hookStepBefore 0 5, .stepBegin 0 5, .consult 7 false, .hookOrderBefore 1 5, .addOrder 0 1,
       .cbSubmitted 7 1, .hookOrderAfter 1 5, .execution 0, .ledger [0], .cbExecuted 7 0,
       .cbExecuted 3 0, .hookExecAfter 0 5, .stepEnd 0 5, .hookStepAfter 0 5, .tick 0] := by
  decide +kernel

/-- (T) the caps and the rate test of the scheduler in the current sources: `>=` on both caps (tested
before each consultation), non-empty `> 0`, owner `!=`, and `rate < draw` to skip the HFT round -/
theorem source_gates :
    Pams.Source.opsOf "SequentialRunner._collect_orders_from_normal_agents" = [">=", ">", ">", "!="] ∧
    Pams.Source.opsOf "SequentialRunner._handle_orders" = ["<", ">=", ">", ">", "!="] := by decide +kernel

/-- (T) the matching round of the request loop in the current sources: exactly one `_execution`
call, after the market call and the owner's notification, on the paths with execution on (orders
*and* cancels, normal *and* high-frequency branch), none on the paths with execution off -/
theorem source_round_gate :
    ∀ x ∈ PamsGen.requestPaths,
      x.2.2.2.count "_execution" = (if x.2.2.1 then 1 else 0) ∧
      (x.2.2.1 = true →
        x.2.2.2.idxOf (if x.2.1 then "_cancel_order" else "_add_order") < x.2.2.2.idxOf "_execution") := by decide +kernel

end Pams.C09
