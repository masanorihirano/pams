/-
C06 (scheduler part) — one lock-step clock: every loop iteration advances every market exactly
once, index markets after their components; each session spans exactly its configured number of
steps starting where the previous one ended.
-/
import PamsLemmas.RunnerLemmas

namespace Pams.C06R
open Pams.Runner

/-- number of markets configured with id `m` (1 for every registered market: the simulator rejects
duplicate ids) -/
def mult (ms : Markets) (m : Nat) : Nat := (ms.filter (fun x => x.1 = m)).length

theorem mult_cons (x : Nat × Bool) (xs : Markets) (m : Nat) :
    mult (x :: xs) m = mult xs m + if x.1 = m then 1 else 0 := by
  simp [mult, ← List.countP_eq_length_filter, List.countP_cons]

theorem ticks_perm (ms : Markets) : (ticks ms).Perm (ms.map fun m => Ev.tick m.1) := by
  simpa [ticks] using (List.filter_append_perm (fun m : Nat × Bool => !m.2) ms).map fun m => Ev.tick m.1

theorem count_ticks (ms : Markets) (m : Nat) : (ticks ms).count (Ev.tick m) = mult ms m := by
  rw [(ticks_perm ms).count_eq]
  induction ms with
  | nil => rfl
  | cons x xs ih => simp [List.count_cons, mult_cons, ih]

/-- index markets are advanced after all non-index markets (their components) -/
theorem ticks_components_first (ms : Markets) :
    ticks ms = ((ms.filter (fun m => !m.2)).map (fun m => Ev.tick m.1)) ++
               ((ms.filter (fun m => m.2)).map (fun m => Ev.tick m.1)) := rfl

theorem count_not_frame {l : List Ev} (h : ∀ e ∈ l, e.isFrame = false) (x : Ev) (hx : x.isFrame = true) :
    l.count x = 0 :=
  List.count_eq_zero.mpr fun hm => by simp [h x hm] at hx

theorem count_stepBefore (t : Nat) (resume : Nat → Bool) (ms : Markets) (flag : Bool) (m t' : Nat) :
    (stepBefore t resume ms flag).1.count (Ev.stepBegin m t') = (if t' = t then mult ms m else 0) ∧
    (stepBefore t resume ms flag).1.count (Ev.tick m) = 0 := by
  induction ms generalizing flag with
  | nil => simp [stepBefore, mult]
  | cons x xs ih =>
    simp only [stepBefore, List.count_cons, (ih _).1, (ih _).2, mult_cons]
    by_cases ht : t' = t
    · simp [ht]
    · simp [ht, Ne.symm ht]

theorem count_stepAfter (t : Nat) (ms : Markets) (m t' : Nat) :
    (stepAfter t ms).count (Ev.stepBegin m t') = 0 ∧ (stepAfter t ms).count (Ev.tick m) = 0 := by
  induction ms with
  | nil => simp [stepAfter]
  | cons x xs ih => simp [stepAfter, ih.1, ih.2]

theorem count_ticks_stepBegin (ms : Markets) (m t' : Nat) : (ticks ms).count (Ev.stepBegin m t') = 0 :=
  List.count_eq_zero.mpr (by simp [ticks])

/-- One loop iteration that completes normally: every market's step-begin record is written once,
stamped with the iteration's time, and every market's clock is advanced exactly once. -/
theorem step_lockstep (ms : Markets) (cfg : SessionCfg) (t : Nat) (flag : Bool) (tape : StepTape)
    (hok : (runStep ms cfg t flag tape).ok = true) (m t' : Nat) :
    (runStep ms cfg t flag tape).tr.count (Ev.tick m) = mult ms m ∧
    (runStep ms cfg t flag tape).tr.count (Ev.stepBegin m t') = (if t' = t then mult ms m else 0) := by
  have hb := count_not_frame (stepBody_not_frame cfg t (stepBefore t tape.resume ms flag).2 tape)
  rw [runStep_eq] at hok ⊢
  dsimp only at hok ⊢
  split at hok
  · simp [*, count_stepBefore t tape.resume ms flag m t', hb (.tick m) rfl, hb (.stepBegin m t') rfl,
      count_stepAfter t ms m t', count_ticks, count_ticks_stepBegin]
  · cases hok

/-- A run of `n` loop iterations starting at time `t` that completes normally: every market is
advanced exactly `n` times and its step-begin records carry exactly the times `t, …, t+n-1`, once
each — the session spans exactly its configured number of steps. -/
theorem steps_span (ms : Markets) (cfg : SessionCfg) (t : Nat) (flag : Bool) (tapes : List StepTape)
    (n : Nat) (hok : (runSteps ms cfg t flag tapes n).ok = true) (m t' : Nat) :
    (runSteps ms cfg t flag tapes n).tr.count (Ev.tick m) = n * mult ms m ∧
    (runSteps ms cfg t flag tapes n).tr.count (Ev.stepBegin m t') =
      (if t ≤ t' ∧ t' < t + n then mult ms m else 0) := by
  induction n generalizing t flag tapes with
  | zero => simp [runSteps]; omega
  | succ n ih =>
    unfold runSteps at hok ⊢
    have ⟨h1, h2⟩ := Bool.and_eq_true_iff.mp (Out.andThen_ok _ _ ▸ hok)
    rw [andThen_eq_of_ok h1]
    obtain ⟨hs1, hs2⟩ := step_lockstep ms cfg t flag _ h1 m t'
    obtain ⟨hr1, hr2⟩ := ih (t + 1) _ tapes.tail h2
    simp only [List.count_append, hs1, hs2, hr1, hr2]
    constructor
    · rw [Nat.succ_mul]; omega
    · by_cases e : t' = t
      · rw [if_pos e, if_neg (by omega), if_pos (by omega)]; rfl
      · rw [if_neg e, Nat.zero_add]
        exact ite_congr (propext (by omega)) (fun _ => rfl) fun _ => rfl

/-- Sessions follow one another without gap or overlap: session `k` is run starting at the sum of
the lengths of the sessions before it. -/
theorem sessions_consecutive (ms : Markets) (k start : Nat) (cfg : SessionCfg) (cfgs : List SessionCfg)
    (tapes : List (List StepTape)) (hok : (runSession ms k cfg start (tapes.headD [])).ok = true) :
    runSessions ms k start (cfg :: cfgs) tapes =
      ((runSession ms k cfg start (tapes.headD [])).tr ++
         (runSessions ms (k + 1) (start + cfg.steps) cfgs tapes.tail).1,
       (runSessions ms (k + 1) (start + cfg.steps) cfgs tapes.tail).2) := by
  simp only [runSessions, hok, ↓reduceIte]

/-- the run starts the clock of every market once (time −1 → 0) before the first session, which
therefore starts at time 0 -/
theorem run_starts_at_zero (ms : Markets) (cfgs : List SessionCfg) (tapes : List (List StepTape)) :
    ∃ rest, run ms cfgs tapes = [Ev.simBegin, Ev.flush] ++ ticks ms ++ (runSessions ms 0 0 cfgs tapes).1 ++ rest := by
  exact ⟨_, rfl⟩

theorem nonvacuous :
    (runSteps [(0, false), (5, true), (1, false)] { steps := 2, placement := false, execution := true, maxNormal := 1, maxHft := 1 }
      7 true [] 2).tr.filter Ev.isTick = [.tick 0, .tick 1, .tick 5, .tick 0, .tick 1, .tick 5] := by decide +kernel

end Pams.C06R
