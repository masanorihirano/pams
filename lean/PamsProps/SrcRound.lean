/-
Property statements about the **translated source** of the matching round (`Market._execution` and
everything it calls, as it stands in /repo, meaning given by PamsModel/Py.lean), on every book that
holds one buy and one sell order.  They follow from `Pams.Src.execution_src_round` (the source computes
the spelled-out round `Pams.Src.round11`, by symbolic execution, PamsLemmas/SrcMarket.lean) by reading
`round11` off; `source_round_one_pair` restates `Pams.Src.execution_src` (source = model).

These are theorems about the code, not about the hand-written model: an edit of /repo that changes
what the round computes on such a book makes `execution_src_round` — and with it this file — fail to
compile on the next run.
-/
import PamsLemmas.SrcMarket

namespace Pams.SrcRound
open Pams Pams.Py Pams.Src
variable {K : Type} [LinearOrder K]

variable [NumOpsC K]

theorem round11_success (m : Market K) (a b : Order K)
    (hex : remainExecutable [a] [b] = true) (hva : a.vol ≠ 0) (hvb : b.vol ≠ 0) (hid : a.id ≠ b.id)
    (hnn : ¬ (a.price = none ∧ b.price = none)) (hr : m.running = true) :
    ∃ price : K, pairPrice a b = some price ∧
      round11 m a b = fill11 m a b price := by
  obtain ⟨price, hp⟩ := pairPrice_isSome a b hnn
  refine ⟨price, hp, ?_⟩
  unfold round11
  simp [hex, hva, hvb, hid, hp, hr]

/-- the five series of the step after one fill of volume `v` at `price` -/
def seriesObs (m : Market K) (price : K) (v : Nat) : List (CObs K) :=
  [.tuple [.num price], .tuple [.int ((m.cur.execVol : Int) + v)],
   .tuple [.num (m.cur.turnover + PyNum.ofInt v * price)], .tuple [.none], .tuple [.num price]]

end Pams.SrcRound

namespace Pams.C01
open Pams Pams.Py Pams.Src
variable {K : Type} [LinearOrder K] [NumOpsC K]

/-- **source = model for one matching round** (restated from `Src.execution_src`): on every book of
one buy order `a` and one sell order `b` (not both market orders) the current source of
`Market._execution` returns the fills, leaves the volumes, queues and step series, or raises,
exactly as `Market.execution` of the model does — for all prices, volumes, ids, times, agents. -/
theorem source_round_one_pair (m : Market K) (a b : Order K) (mp dflt : K)
    (hb : m.buys = [a]) (hs : m.sells = [b]) (ha : a.isBuy = true) (hbb : b.isBuy = false)
    (hnn : ¬ (a.price = none ∧ b.price = none)) (ht : m.time = 0)
    (hmk : m.cur.market = some mp) (hid : a.id ≠ b.id) :
    resultG execObs (rhoM m a b dflt) env XFUEL "Market._execution" [.ref 5]
        (st11 m.cur.last.isSome m.cur.mid.isSome a.price.isSome b.price.isSome)
      = modelObs a b (Market.execution (srcOps K) m) :=
  execution_src m a b mp dflt hb hs ha hbb hnn ht hmk hid

-- `hb hs ha hbb` name the whole setting; the state `st11` and the round `round11` speak of `a` and `b` alone
set_option linter.unusedVariables false in
/-- **the fill the current source produces for one crossing pair honours both limits and carries the
price of the earlier-accepted order** (`pairPrice`: the limit side against a market order; of two
limit orders the one accepted earlier, the lower id at equal times): the first component of the
single fill record is that price, and it is `≤` the buyer's and `≥` the seller's limit. -/
theorem source_one_pair_fill_price (m : Market K) (a b : Order K) (mp dflt : K)
    (hb : m.buys = [a]) (hs : m.sells = [b]) (ha : a.isBuy = true) (hbb : b.isBuy = false)
    (hnn : ¬ (a.price = none ∧ b.price = none)) (ht : m.time = 0)
    (hmk : m.cur.market = some mp) (hid : a.id ≠ b.id)
    (hex : remainExecutable [a] [b] = true) (hva : a.vol ≠ 0) (hvb : b.vol ≠ 0) (hr : m.running = true) :
    ∃ (price : K) (restFill rest : List (CObs K)),
      resultG execObs (rhoM m a b dflt) env XFUEL "Market._execution" [.ref 5]
          (st11 m.cur.last.isSome m.cur.mid.isSome a.price.isSome b.price.isSome)
        = .tuple (.tuple [.tuple (.num price :: restFill)] :: rest) ∧
      pairPrice a b = some price ∧
      (∀ pa, a.price = some pa → price ≤ pa) ∧ (∀ pb, b.price = some pb → pb ≤ price) := by
  obtain ⟨price, hp, hround⟩ := SrcRound.round11_success m a b hex hva hvb hid hnn hr
  rw [execution_src_round m a b mp dflt hnn ht hmk hid, hround]
  exact ⟨price, _, _, rfl, hp, pairPrice_ok hp (cross_of_executable a b hnn (by simp [hex]))⟩

end Pams.C01

namespace Pams.C03
open Pams Pams.Py Pams.Src
variable {K : Type} [LinearOrder K] [NumOpsC K]

set_option linter.unusedVariables false in
/-- **the round of the current source on one executable pair does not raise and clears the pair**:
with positive volumes and a running market the result is a fill, and afterwards at least one of the
two queues is empty (so no executable pair remains). -/
theorem source_one_pair_clears (m : Market K) (a b : Order K) (mp dflt : K)
    (hb : m.buys = [a]) (hs : m.sells = [b]) (ha : a.isBuy = true) (hbb : b.isBuy = false)
    (hnn : ¬ (a.price = none ∧ b.price = none)) (ht : m.time = 0)
    (hmk : m.cur.market = some mp) (hid : a.id ≠ b.id)
    (hex : remainExecutable [a] [b] = true) (hva : a.vol ≠ 0) (hvb : b.vol ≠ 0) (hr : m.running = true) :
    ∃ (fills va vb : CObs K) (qb qs : List (CObs K)) (rest : List (CObs K)),
      resultG execObs (rhoM m a b dflt) env XFUEL "Market._execution" [.ref 5]
          (st11 m.cur.last.isSome m.cur.mid.isSome a.price.isSome b.price.isSome)
        = .tuple (fills :: va :: vb :: .tuple qb :: .tuple qs :: rest) ∧ (qb = [] ∨ qs = []) := by
  obtain ⟨price, hp, hround⟩ := SrcRound.round11_success m a b hex hva hvb hid hnn hr
  rw [execution_src_round m a b mp dflt hnn ht hmk hid, hround]
  refine ⟨_, _, _, _, _, _, rfl, ?_⟩
  by_cases h : b.vol < a.vol
  · right; rw [if_pos (by omega)]
  · left; rw [if_pos (by omega)]

set_option linter.unusedVariables false in
/-- a pair that is not executable is left alone: no fill, nothing raised, both orders stay -/
theorem source_one_pair_not_executable (m : Market K) (a b : Order K) (mp dflt : K)
    (hb : m.buys = [a]) (hs : m.sells = [b]) (ha : a.isBuy = true) (hbb : b.isBuy = false)
    (hnn : ¬ (a.price = none ∧ b.price = none)) (ht : m.time = 0)
    (hmk : m.cur.market = some mp) (hid : a.id ≠ b.id) (hex : remainExecutable [a] [b] = false) :
    resultG execObs (rhoM m a b dflt) env XFUEL "Market._execution" [.ref 5]
        (st11 m.cur.last.isSome m.cur.mid.isSome a.price.isSome b.price.isSome)
      = .tuple [.tuple [], .int a.vol, .int b.vol, .tuple [.ref 1], .tuple [.ref 2], .tuple [cOpt m.cur.last],
                .tuple [.int m.cur.execVol], .tuple [.num m.cur.turnover], .tuple [cOpt m.cur.mid],
                .tuple [cOpt m.cur.market]] := by
  rw [execution_src_round m a b mp dflt hnn ht hmk hid]
  simp [round11, idle11, hex]

end Pams.C03

namespace Pams.C04
open Pams Pams.Py Pams.Src
variable {K : Type} [LinearOrder K] [NumOpsC K]

set_option linter.unusedVariables false in
/-- **volume bookkeeping of the current source on one pair**: the fill has the smaller of the two
volumes, both order objects lose exactly that volume (never below zero), and an order left with
volume zero is no longer in its queue while an order with volume left still is. -/
theorem source_one_pair_volumes (m : Market K) (a b : Order K) (mp dflt : K)
    (hb : m.buys = [a]) (hs : m.sells = [b]) (ha : a.isBuy = true) (hbb : b.isBuy = false)
    (hnn : ¬ (a.price = none ∧ b.price = none)) (ht : m.time = 0)
    (hmk : m.cur.market = some mp) (hid : a.id ≠ b.id)
    (hex : remainExecutable [a] [b] = true) (hva : a.vol ≠ 0) (hvb : b.vol ≠ 0) (hr : m.running = true) :
    ∃ (price : K) (v : Nat),
      v = min a.vol b.vol ∧ 0 < v ∧
      resultG execObs (rhoM m a b dflt) env XFUEL "Market._execution" [.ref 5]
          (st11 m.cur.last.isSome m.cur.mid.isSome a.price.isSome b.price.isSome)
        = .tuple (.tuple [.tuple [.num price, .int v, .int a.id, .int b.id, .int a.agent, .int b.agent, .int m.time]]
            :: .int ((a.vol - v : Nat) : Int) :: .int ((b.vol - v : Nat) : Int)
            :: .tuple (if a.vol - v = 0 then [] else [.ref 1]) :: .tuple (if b.vol - v = 0 then [] else [.ref 2])
            :: SrcRound.seriesObs m price v) := by
  obtain ⟨price, hp, hround⟩ := SrcRound.round11_success m a b hex hva hvb hid hnn hr
  rw [execution_src_round m a b mp dflt hnn ht hmk hid, hround]
  exact ⟨price, min a.vol b.vol, rfl, by omega, rfl⟩

end Pams.C04

namespace Pams.C08
open Pams Pams.Py Pams.Src
variable {K : Type} [LinearOrder K] [NumOpsC K]

set_option linter.unusedVariables false in
/-- **what the current source writes into the step's series for one fill**: last-trade price and
market price become the trade price, executed volume grows by the fill's volume, turnover by
`volume * price`, and the mid-quote is cleared (one side of the book is empty after the fill). -/
theorem source_one_pair_series (m : Market K) (a b : Order K) (mp dflt : K)
    (hb : m.buys = [a]) (hs : m.sells = [b]) (ha : a.isBuy = true) (hbb : b.isBuy = false)
    (hnn : ¬ (a.price = none ∧ b.price = none)) (ht : m.time = 0)
    (hmk : m.cur.market = some mp) (hid : a.id ≠ b.id)
    (hex : remainExecutable [a] [b] = true) (hva : a.vol ≠ 0) (hvb : b.vol ≠ 0) (hr : m.running = true) :
    ∃ (price : K) (f va vb qb qs : CObs K),
      pairPrice a b = some price ∧
      resultG execObs (rhoM m a b dflt) env XFUEL "Market._execution" [.ref 5]
          (st11 m.cur.last.isSome m.cur.mid.isSome a.price.isSome b.price.isSome)
        = .tuple [f, va, vb, qb, qs, .tuple [.num price],
                  .tuple [.int ((m.cur.execVol : Int) + (min a.vol b.vol : Nat))],
                  .tuple [.num (m.cur.turnover + PyNum.ofInt ((min a.vol b.vol : Nat) : Int) * price)],
                  .tuple [.none], .tuple [.num price]] := by
  obtain ⟨price, hp, hround⟩ := SrcRound.round11_success m a b hex hva hvb hid hnn hr
  rw [execution_src_round m a b mp dflt hnn ht hmk hid, hround]
  exact ⟨price, _, _, _, _, _, hp, rfl⟩

set_option linter.unusedVariables false in
/-- while the market is not running the round of the current source refuses the fill
(`AssertionError`) — nothing moves -/
theorem source_one_pair_not_running (m : Market K) (a b : Order K) (mp dflt : K)
    (hb : m.buys = [a]) (hs : m.sells = [b]) (ha : a.isBuy = true) (hbb : b.isBuy = false)
    (hnn : ¬ (a.price = none ∧ b.price = none)) (ht : m.time = 0)
    (hmk : m.cur.market = some mp) (hid : a.id ≠ b.id)
    (hex : remainExecutable [a] [b] = true) (hva : a.vol ≠ 0) (hvb : b.vol ≠ 0) (hr : m.running = false) :
    resultG execObs (rhoM m a b dflt) env XFUEL "Market._execution" [.ref 5]
        (st11 m.cur.last.isSome m.cur.mid.isSome a.price.isSome b.price.isSome)
      = .err (.raise "AssertionError") := by
  rw [execution_src_round m a b mp dflt hnn ht hmk hid]
  obtain ⟨price, hp⟩ := pairPrice_isSome a b hnn
  simp [round11, hex, hva, hvb, hid, hp, hr]

end Pams.C08
