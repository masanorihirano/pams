/-
C20 on the *current source text* of the built-in agents (translated on every run into `PamsGen.Code`):
`ArbitrageAgent.submit_orders` / `_submit_orders`, `MarketMakerAgent.submit_orders` and
`FCNAgent.submit_orders_by_market` (fixed and normal margin) emit exactly the orders of the models of
PamsModel/Agents.lean — by symbolic execution, for every value of the prices, weights, thresholds, clocks
and draws; `MarketShareFCNAgent.submit_orders` hands the accessible markets and their traded volumes to
`choices`; `MarketMakerAgent.get_base_price` is the mean of the best accessible quotes.  The theorems of
C20.lean about the models over ℝ (side iff sign of the expected return, shaded quotes, symmetric market-maker
quotes, hedged arbitrage basket, strict thresholds) thereby speak about this code.
-/
import PamsLemmas.SrcAgentsFcn
import PamsProps.C20
import Batteries.Tactic.Alias

open Pams Pams.Py Pams.Agents Pams.Src

namespace Pams.C20

section Uninterpreted
variable {K : Type} [LinearOrder K] [NumOpsC K]

/-- **the arbitrage agent's source is `arbOrders (arbSide …)`**: nothing unless the index market is
accessible and it and its components run; else, iff the gap between index and index-market price exceeds
the threshold *strictly*, one order for the index market at its price for `#components × volume` and one
opposite order of `volume` per component at the component's price — both sides of the basket in one
activation; components with unequal share counts are refused -/
theorem source_arbitrage_is_model (v ttl : Nat) (th idx ip p0 p1 : K) (s0 s1 : Int)
    (accessible running allRunning : Bool) :
    resultG ordersObs (rhoArb v ttl th idx ip p0 p1 s0 s1 accessible running allRunning) arbEnv FUEL
        "ArbitrageAgent.submit_orders" [.ref 1, .list [.ref 5, .ref 9]] arbSt
      = arbExpected v ttl th idx ip p0 p1 s0 s1 accessible running allRunning :=
  (resultG_eq_of_agreeO _ arb_agree).trans (arbT_denote _ v ttl rfl rfl)

/-- **the market maker's source is `mmOrders`** around what `get_base_price` answers, or around the market
price when it answers `None` -/
theorem source_market_maker_is_model (ttl : Nat) (spread base mp fund : K) :
    resultG mmObs (rhoMm ttl spread base mp fund) (mmEnv true) FUEL "MarketMakerAgent.submit_orders"
        [.ref 1, .list [.ref 5, .ref 6]] mmSt
      = .tuple [.tuple ((mmOrders base fund spread (PyNum.ofInt 1 / PyNum.ofInt 2) ttl).map (aorderObs 0)),
                .tuple [.tuple [.tuple [.ref 5, .ref 6]]]] ∧
    resultG mmObs (rhoMm ttl spread base mp fund) (mmEnv false) FUEL "MarketMakerAgent.submit_orders"
        [.ref 1, .list [.ref 5, .ref 6]] mmSt
      = .tuple [.tuple ((mmOrders mp fund spread (PyNum.ofInt 1 / PyNum.ofInt 2) ttl).map (aorderObs 0)),
                .tuple [.tuple [.tuple [.ref 5, .ref 6]]]] :=
  ⟨(resultG_eq_of_agreeP _ (mm_agree true)).trans (mmT_denote _ ttl rfl _),
   (resultG_eq_of_agreeP _ (mm_agree false)).trans (mmT_denote _ ttl rfl _)⟩

/-- **the FCN agent's source (fixed margin) is the documented formula** `fcnSrcOrders`, on every one of the
135 paths of the translated function -/
theorem source_fcn_is_formula (t window mrt : Nat) (wf wc wn ns margin fund mp mpPast g : K) (cf : Bool)
    (hpos : ∀ n : Int, 0 < n → (NumOpsC.ofInt n : K) ≠ NumOpsC.ofInt 0)
    (hmp : mp ≠ NumOpsC.ofInt 0) (hpast : mpPast ≠ NumOpsC.ofInt 0) (hw : wf + wc + wn ≠ NumOpsC.ofInt 0)
    (hwf : (NumOpsC.ofInt 0 : K) ≤ wf) (hwc : (NumOpsC.ofInt 0 : K) ≤ wc) (hwn : (NumOpsC.ofInt 0 : K) ≤ wn)
    (hm0 : (NumOpsC.ofInt 0 : K) ≤ margin) (hm1 : margin ≤ NumOpsC.ofInt 1) :
    resultG ordersObs (rhoFcn t window mrt wf wc wn ns margin fund mp mpPast g true cf) fcnEnv FUEL
        "FCNAgent.submit_orders_by_market" [.ref 1, .ref 5] fcnSt
      = .tuple ((fcnSrcOrders t window mrt wf wc wn ns margin fund mp mpPast g cf).map (aorderObs 0)) := by
  obtain ⟨e, he, h⟩ := fcnT_denote (rhoFcn t window mrt wf wc wn ns margin fund mp mpPast g true cf) t window mrt
    fixedT cf rfl rfl rfl rfl rfl hpos hmp hpast hw hwf hwc hwn
  rw [resultG_eq_of_agreeP _ fcn_agree, h, fixedT_denote _ window rfl e hm0 hm1, he]
  rfl

/-- an inaccessible market gets no order -/
theorem source_fcn_inaccessible (t window mrt : Nat) (wf wc wn ns margin fund mp mpPast g : K) (cf : Bool) :
    resultG ordersObs (rhoFcn t window mrt wf wc wn ns margin fund mp mpPast g false cf) fcnEnv FUEL
        "FCNAgent.submit_orders_by_market" [.ref 1, .ref 5] fcnSt = .tuple [] := by
  rw [resultG_eq_of_agreeP _ fcn_agree]
  rfl

/-- **the market-share FCN agent's source**: candidates = the accessible markets, weights = traded volume over
the last `time_window_size` steps up to now (cut at time 0) plus 1e-10, handed to `choices`; the FCN order is
made for the market drawn, and only for it -/
alias source_market_share_weights := ms_src

/-- **the market maker's base price on the source**: mean of the highest accessible best bid and the lowest
accessible best ask, `None` if either side is missing among the accessible markets -/
alias source_market_maker_base_price := bp_src

/-- the normal-margin mode: same expected price and sides, quote `E + gauss · margin`, refused if negative -/
alias source_fcn_normal_margin := fcn_src_normal

end Uninterpreted

/-! ### at the reals: the source's formula is the model's -/

/-- the real operations as the operations the translated code uses -/
@[reducible] noncomputable def realOps : NumOpsC ℝ :=
  { add := (· + ·), sub := (· - ·), mul := (· * ·), div := (· / ·), neg := (- ·), ofInt := fun i => (i : ℝ),
    floor := fun x => ⌊x⌋, ceil := fun x => ⌈x⌉, fmod := fun a _ => a, exp := Real.exp, log := Real.log,
    sqrt := Real.sqrt }

/-- **over ℝ the source's expected log return is the model's `fcnLogReturn`** (the source multiplies the
chart term by ±1, the model negates; windows `max(mrt,1)` and `max(min(t,window),1)`) -/
theorem source_fcn_log_return_real (mp fund mpPast wf wc wn noise : ℝ) (tw mrt : Nat) (cf : Bool) :
    @fcnLogReturnSrc ℝ _ realOps mp fund mpPast wf wc wn noise tw mrt cf
      = @fcnLogReturn ℝ realArith mp fund mpPast wf wc wn noise tw mrt cf := by
  have h (n : Nat) : (if n < 1 then 1 else n : Nat) = Nat.max n 1 := by
    simp only [Nat.max_def]; split <;> split <;> omega
  unfold fcnLogReturnSrc fcnLogReturn
  rw [h, h]
  change ((1 : ℤ) : ℝ) / (wf + wc + wn) *
      (wf * (((1 : ℤ) : ℝ) / (((mrt.max 1 : ℕ) : ℤ) : ℝ) * Real.log (fund / mp)) +
        wc * (((1 : ℤ) : ℝ) / (((tw.max 1 : ℕ) : ℤ) : ℝ) * Real.log (mp / mpPast)) *
          (((if cf = true then 1 else -1 : ℤ)) : ℝ) + wn * noise) =
    (1 : ℝ) / (wf + wc + wn) *
      ((wf * ((1 : ℝ) / ((mrt.max 1 : ℕ) : ℝ) * Real.log (fund / mp)) +
        if cf = true then wc * ((1 : ℝ) / ((tw.max 1 : ℕ) : ℝ) * Real.log (mp / mpPast))
        else -(wc * ((1 : ℝ) / ((tw.max 1 : ℕ) : ℝ) * Real.log (mp / mpPast)))) + wn * noise)
  cases cf <;> simp

end Pams.C20
