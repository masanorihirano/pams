/-
C04 — Order accounting and lifetime: nothing lost, no fill after cancel or expiry.
(the clause "only when submitted by its owner" is a runner check: `C09.normal_prefix_cap`.)
-/
import PamsLemmas.SrcOrder
import PamsLemmas.SourceTie
import PamsLemmas.AccountLemmas
import Mathlib.Data.Nat.Basic

set_option linter.unusedSectionVars false

namespace Pams.C04
open Pams
variable {P : Type} [LinearOrder P]

/-- Accounting identity along every history from the initial state: for every order id, the volume
accepted under it equals the sum of its fills plus the volume it currently has — its resting
volume, or the volume it left the book with (0 if it was filled completely, the volume reported
at its cancellation or expiry otherwise; volumes of orders that left never change again). -/
theorem accounting_identity (ops : PriceOps P) (mp : P) (fund : Option P) (os : List (Op P))
    (hv : ∀ o ∈ os, o.valid) (id : Nat) :
    accepted id ((Market.init ops mp fund).runOps ops os).2 =
      filledIn id ((Market.init ops mp fund).runOps ops os).2 +
        curVol ((Market.init ops mp fund).runOps ops os).1 id := by
  have := run_accounting ops (Market.init ops mp fund) (inv_init ops mp fund) os hv id
  have h0 : curVol (Market.init ops mp fund) id = 0 := by simp [curVol, Market.init, volOf, goneVol]
  omega

/-- Resting orders always have positive volume, were accepted no later than now and are not
past their lifetime. -/
theorem resting_positive (m : Market P) (h : Inv m) :
    ∀ o, (o ∈ m.buys ∨ o ∈ m.sells) → 0 < o.vol ∧ o.placedAt ≤ m.time ∧
      (∀ t, o.ttl = some t → m.time ≤ o.placedAt + t) := by
  rintro o (ho | ho)
  · exact ⟨h.buys.pos o ho, h.buys.placed o ho, (not_expired_iff o m.time).mp (h.buys.alive o ho)⟩
  · exact ⟨h.sells.pos o ho, h.sells.placed o ho, (not_expired_iff o m.time).mp (h.sells.alive o ho)⟩

/-- A cancel record reports the order's current volume.  A resting order leaves the book with
that volume and is remembered with it; cancelling an order that already left changes nothing. -/
theorem cancel_reports_current_volume (ops : PriceOps P) (m m' : Market P) (h : Inv m) (id : Nat)
    (l : CancelLog P) (hc : m.cancel ops id = .ok (m', l)) :
    l.id = id ∧ l.cancelTime = m.time ∧
    ((∃ o, (o ∈ m.buys ∨ o ∈ m.sells) ∧ o.id = id ∧ l.vol = o.vol ∧
        (∀ y ∈ m'.buys, y.id ≠ id) ∧ (∀ y ∈ m'.sells, y.id ≠ id) ∧ (o, Gone.canceled) ∈ m'.gone) ∨
     (∃ g ∈ m.gone, g.1.id = id ∧ l.vol = g.1.vol ∧ m'.buys = m.buys ∧ m'.sells = m.sells ∧
        m'.gone = m.gone)) := by
  obtain ⟨o, rfl, ⟨hf, rfl⟩ | ⟨hf, rfl⟩ | ⟨⟨gn, hf⟩, rfl⟩⟩ := cancel_cases hc
  · have ho := findOrder_some hf
    exact ⟨ho.2, rfl, Or.inl ⟨o, Or.inl ho.1, ho.2, rfl,
      fun y hy => (mem_remove.mp hy).2,
      fun y hy heq => h.disj o ho.1 y hy (ho.2.trans heq.symm), List.mem_cons_self⟩⟩
  · have ho := findOrder_some hf
    exact ⟨ho.2, rfl, Or.inl ⟨o, Or.inr ho.1, ho.2, rfl,
      fun y hy heq => h.disj y hy o ho.1 (heq.trans ho.2.symm),
      fun y hy => (mem_remove.mp hy).2, List.mem_cons_self⟩⟩
  · have hid : o.id = id := by simpa using List.find?_some hf
    exact ⟨hid, rfl, Or.inr ⟨(o, gn), List.mem_of_find?_eq_some hf, hid, rfl, rfl, rfl, rfl⟩⟩

/-- No fill after an order left the book (cancelled, expired or filled completely): every fill of
a round is between two *resting* orders, and the ids of orders that left are never ids of resting
orders (`goneInv_runOps`: this holds in every reachable state). -/
theorem no_fill_after_leaving (ops : PriceOps P) (m m' : Market P) (fs : List (Fill P))
    (h : Inv m) (hg : GoneInv m) (he : m.execution ops = .ok (m', fs)) :
    ∀ f ∈ fs, ∀ g ∈ m.gone, f.buyId ≠ g.1.id ∧ f.sellId ≠ g.1.id := by
  intro f hf g hgm
  obtain ⟨price, -, -, pr, hpr, rfl⟩ := fill_of_execution he hf
  obtain ⟨⟨b, hb, hsb⟩, ⟨s, hs', hss⟩⟩ := walk_pairs_mem m.buys m.sells pr hpr
  exact ⟨fun e => (hg g hgm).2.1 b hb (hsb.id.symm.trans e),
    fun e => (hg g hgm).2.2 s hs' (hss.id.symm.trans e)⟩

/-- No fill at a time later than acceptance time + time-to-live. -/
theorem no_fill_after_ttl (ops : PriceOps P) (m m' : Market P) (fs : List (Fill P))
    (h : Inv m) (he : m.execution ops = .ok (m', fs)) :
    ∀ f ∈ fs, ∃ b ∈ m.buys, ∃ s ∈ m.sells, b.id = f.buyId ∧ s.id = f.sellId ∧ f.time = m.time ∧
      (∀ t, b.ttl = some t → f.time ≤ b.placedAt + t) ∧
      (∀ t, s.ttl = some t → f.time ≤ s.placedAt + t) ∧ 0 < f.vol := by
  intro f hf
  obtain ⟨price, -, -, pr, hpr, rfl⟩ := fill_of_execution he hf
  obtain ⟨⟨b, hb, hsb⟩, ⟨s, hs', hss⟩⟩ := walk_pairs_mem m.buys m.sells pr hpr
  exact ⟨b, hb, s, hs', hsb.id.symm, hss.id.symm, rfl,
    (resting_positive m h b (Or.inl hb)).2.2, (resting_positive m h s (Or.inr hs')).2.2,
    walk_pairs_pos h.buys.pos h.sells.pos pr hpr⟩

/-- An order leaves the book exactly when the clock passes acceptance time + time-to-live: a
clock step to time `t+1` keeps exactly the resting orders with `placedAt + ttl ≥ t+1` (all of
them when there is no time-to-live) and emits one expiry record, with the remaining volume, for
each of the others. -/
theorem expiry_exact (ops : PriceOps P) (m : Market P) (fund : Option P) :
    let m' := (m.tick ops fund).1
    (∀ o, o ∈ m'.buys ↔ (o ∈ m.buys ∧ ¬ ∃ t, o.ttl = some t ∧ o.placedAt + t < m.time + 1)) ∧
    (∀ o, o ∈ m'.sells ↔ (o ∈ m.sells ∧ ¬ ∃ t, o.ttl = some t ∧ o.placedAt + t < m.time + 1)) ∧
    (m.tick ops fund).2 =
      (m.buys.filter (fun o => o.expired (m.time + 1))).map (mkExpiry (m.time + 1)) ++
      (m.sells.filter (fun o => o.expired (m.time + 1))).map (mkExpiry (m.time + 1)) := by
  exact ⟨fun _ => mem_keepAt, fun _ => mem_keepAt, rfl⟩

/-- The same when the clock is moved by several steps at once (`_set_time`): every order whose
life ended before the new time leaves the book, with one expiry record each, however far the
clock jumps. -/
theorem jump_expiry_exact (ops : PriceOps P) (m : Market P) (k : Nat) (fund : Option P) :
    let m' := (m.setTime ops k fund).1
    (∀ o, o ∈ m'.buys ↔ (o ∈ m.buys ∧ ¬ ∃ t, o.ttl = some t ∧ o.placedAt + t < m.time + k)) ∧
    (∀ o, o ∈ m'.sells ↔ (o ∈ m.sells ∧ ¬ ∃ t, o.ttl = some t ∧ o.placedAt + t < m.time + k)) ∧
    (m.setTime ops k fund).2 =
      (m.buys.filter (fun o => o.expired (m.time + k))).map (mkExpiry (m.time + k)) ++
      (m.sells.filter (fun o => o.expired (m.time + k))).map (mkExpiry (m.time + k)) := by
  exact ⟨fun _ => mem_keepAt, fun _ => mem_keepAt, rfl⟩

/-- An order object is accepted at most once and only by the market it names: a submission that
names another market, or that already carries a stamp (acceptance stamps the object with
`placed_at` and `order_id`), is refused and changes nothing; a fresh one is accepted, stamped with
the next id and the current time. -/
theorem accept_once (ops : PriceOps P) (m : Market P) (r : Req P) :
    m.submit ops false false r = .error .wrongMarket ∧
    m.submit ops false true r = .error .wrongMarket ∧
    m.submit ops true true r = .error .alreadySubmitted ∧
    (∃ m' l, m.submit ops true false r = .ok (m', l) ∧ l.id = m.nextId ∧ l.time = m.time ∧
      m'.nextId = m.nextId + 1 ∧ l.vol = r.vol ∧ l.agent = r.agent ∧ l.isBuy = r.isBuy) := by
  refine ⟨rfl, rfl, rfl, _, _, rfl, rfl, rfl, ?_, rfl, rfl, rfl⟩
  cases r.isBuy <;> simp [Market.refresh]

/-! Non-vacuity: partial fill, then cancel of the rest, then an expiry. -/
def natOps : PriceOps Nat := { mid := fun a b => (a + b) / 2, addNotional := fun acc v p => acc + v * p, zero := 0, snap := fun _ p => p }
def demoOps : List (Op Nat) :=
  [.setRunning true,
   .add { agent := 1, isBuy := false, price := some 100, vol := 5, ttl := none },
   .add { agent := 2, isBuy := true, price := some 100, vol := 2, ttl := none }, .exec,
   .cancel 0,
   .add { agent := 3, isBuy := true, price := some 90, vol := 4, ttl := some 1 },
   .tick none, .tick none]
theorem nonvacuous :
    accepted 0 ((Market.init natOps 100 none).runOps natOps demoOps).2 = 5 ∧
    filledIn 0 ((Market.init natOps 100 none).runOps natOps demoOps).2 = 2 ∧
    curVol ((Market.init natOps 100 none).runOps natOps demoOps).1 0 = 3 ∧
    curVol ((Market.init natOps 100 none).runOps natOps demoOps).1 2 = 4 ∧
    ((Market.init natOps 100 none).runOps natOps demoOps).1.buys = [] := by decide +kernel

/-- (T) expiry and acceptance guards in the current sources: expiry keys `< time`, `placed_at + ttl <
time`, and the three guards + the grid test of `_add_order` -/
theorem source_expiry_and_guards :
    Pams.Source.opsOf "OrderBook._check_expired_orders" = ["<", "<", "=="] ∧
    Pams.Source.opsOf "Order.is_expired" = ["is", "is", "<"] ∧
    Pams.Source.opsOf "Market._add_order" = ["!=", "is not", "is not", "is not", "!=", "!=", "is not"] := by decide


section SourceCode
open Pams.Py Pams.Src
variable {K : Type} [LinearOrder K] [NumOpsC K]

/-- **running the source of `is_expired(time)` on an accepted order says "expired" exactly when the
order has a time-to-live and `placed_at + ttl < time`** -/
theorem code_is_expired (a b : Order K) (time : Nat) (dflt : K) (x : Nat → Int) (y : Nat → Bool)
    (hx : x 5 = time) :
    ∃ r, result (rho2 a b dflt x y) env FUEL "Order.is_expired" [.ref 1, .int (.atom 5)]
        (st2 false a.ttl.isSome false false) = .bool r ∧
      (r = true ↔ ∃ t, a.ttl = some t ∧ a.placedAt + t < time) := by
  exact ⟨a.expired time, is_expired_correct a b time dflt x y hx, expired_iff a time⟩

end SourceCode

end Pams.C04
