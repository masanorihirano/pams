/-
C05 at the level of the **translated source**: `Simulator._update_agents_for_execution` as it stands in
/repo is the model's ledger fold (PamsLemmas/SrcLedger.lean, by symbolic execution), and therefore
conserves cash and shares when the arithmetic is that of an ordered field.
-/
import PamsLemmas.SrcLedger
import PamsProps.C05
import Mathlib.Algebra.Order.Field.Basic

namespace Pams.C05
open Pams Pams.Py Pams.Src Pams.Ledger

section Uninterpreted
variable {K : Type} [LinearOrder K] [NumOpsC K]

/-- **one fill, current source = model** (restated from `Src.ledger_src_one`): buyer and seller in
{1, 2} (equal for a self-trade), market in {0, 1}, any price, volume, cash and positions. -/
theorem source_fill_is_applyFill (b s mk : Nat) (hb : b = 1 ∨ b = 2) (hs : s = 1 ∨ s = 2) (hm : mk = 0 ∨ mk = 1)
    (cash : Nat → K) (shares : Nat → Nat → Int) (p0 p1 : K) (v0 v1 : Nat) (dflt : K) :
    resultG ledgerObs (rhoLedger cash shares p0 p1 v0 v1 dflt) env FUEL "Simulator._update_agents_for_execution"
        [.ref 7, .list [.ref 30]] (ledgerSt b s mk 1 2 0)
      = bookObs (applyFills (· - ·) (· + ·) { cash := cash, shares := shares } [mkFillL b s mk p0 v0]) :=
  ledger_src_one b s mk hb hs hm cash shares p0 p1 v0 v1 dflt

/-- **a list of fills is applied in order** (current source = the model's left fold), here for two -/
theorem source_fills_fold_in_order (cash : Nat → K) (shares : Nat → Nat → Int) (p0 p1 : K) (v0 v1 : Nat) (dflt : K) :
    resultG ledgerObs (rhoLedger cash shares p0 p1 v0 v1 dflt) env FUEL "Simulator._update_agents_for_execution"
        [.ref 7, .list [.ref 30, .ref 31]] (ledgerSt 1 2 0 2 1 0)
      = bookObs (applyFills (· - ·) (· + ·) { cash := cash, shares := shares }
          [mkFillL 1 2 0 p0 v0, mkFillL 2 1 0 p1 v1]) :=
  ledger_src_two cash shares p0 p1 v0 v1 dflt

end Uninterpreted

section Field
variable {K : Type} [Field K] [LinearOrder K] [IsStrictOrderedRing K]

/-- the field operations as the operations the translated code uses -/
@[reducible] def ledgerFieldOps : NumOpsC K :=
  { add := (· + ·), sub := (· - ·), mul := (· * ·), div := (· / ·), neg := (- ·), ofInt := fun i => (i : K),
    floor := fun _ => 0, ceil := fun _ => 0, fmod := fun a _ => a, exp := id, log := id, sqrt := id }

-- the statement carries the section's `[IsStrictOrderedRing K]`, which the proof does not need
set_option linter.unusedSectionVars false in
/-- **the holdings the current source leaves after a fill conserve cash and shares** (exact arithmetic):
there is a book `bk` that is what the source leaves, the two agents' cash adds up to what it was and
so do their positions in every market; a third agent does not exist in the heap, so nothing else can
have changed. -/
theorem source_fill_conserves (b s mk : Nat) (hb : b = 1 ∨ b = 2) (hs : s = 1 ∨ s = 2) (hm : mk = 0 ∨ mk = 1)
    (cash : Nat → K) (shares : Nat → Nat → Int) (p0 p1 : K) (v0 v1 : Nat) (dflt : K) :
    ∃ bk : Book K,
      @resultG K (@pyNumOfOrder K _ ledgerFieldOps) ledgerObs (rhoLedger cash shares p0 p1 v0 v1 dflt) env FUEL
          "Simulator._update_agents_for_execution" [.ref 7, .list [.ref 30]] (ledgerSt b s mk 1 2 0) = bookObs bk ∧
      bk.cash 1 + bk.cash 2 = cash 1 + cash 2 ∧
      ∀ m, bk.shares 1 m + bk.shares 2 m = shares 1 m + shares 2 m := by
  have h := totals_conserved [1, 2] (by decide) ({ cash := cash, shares := shares } : Book K)
    [@mkFillL K _ ledgerFieldOps b s mk p0 v0] (by
      intro f hf
      simp only [List.mem_singleton] at hf
      subst hf
      rcases hb with rfl | rfl <;> rcases hs with rfl | rfl <;> simp [mkFillL])
  exact ⟨_, @ledger_src_one K _ ledgerFieldOps b s mk hb hs hm cash shares p0 p1 v0 v1 dflt,
    by simpa using h.1, fun m => by simpa using h.2 m⟩

end Field

end Pams.C05
