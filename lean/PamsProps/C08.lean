/-
C08 — Market price, quotes and step statistics are what book and fills imply.

All statements are syntactic in the uninterpreted arithmetic `ops : PriceOps P` (`mid`,
`addNotional`, `zero`), so they hold for IEEE doubles exactly as Python computes them.
-/
import PamsLemmas.SourceTie
import PamsLemmas.SeriesLemmas
import Mathlib.Data.Nat.Basic

set_option linter.unusedSectionVars false

namespace Pams.C08
open Pams
variable {P : Type} [LinearOrder P]

theorem refresh_spec (ops : PriceOps P) (m : Market P) :
    (m.refresh ops).cur.mid = midOf ops m.buys m.sells ∧
    (m.refresh ops).cur.market =
      marketRule m.running m.cur.last (midOf ops m.buys m.sells) m.cur.market ∧
    (m.refresh ops).cur.last = m.cur.last := ⟨rfl, rfl, rfl⟩

theorem midOf_spec (ops : PriceOps P) (buys sells : List (Order P)) :
    midOf ops buys sells =
      match Book.bestPrice buys, Book.bestPrice sells with
      | some b, some s => some (ops.mid s b)
      | _, _ => none := rfl

theorem marketRule_spec (last mid prev : Option P) :
    marketRule true last mid prev = (last.orElse fun _ => mid.orElse fun _ => prev) ∧
    marketRule false last mid prev = prev := by
  unfold marketRule
  rcases last with _ | l <;> rcases mid with _ | x <;> simp

/-- Best bid/ask describe the book: the head of each sorted side. -/
theorem best_price_is_head (o : Order P) (l : List (Order P)) :
    Book.bestPrice (o :: l) = o.price ∧ Book.bestPrice ([] : List (Order P)) = none := ⟨rfl, rfl⟩

/-- After a submission: mid refreshed from the new book, market price by the rule, counters +1. -/
theorem after_submission (ops : PriceOps P) (m : Market P) (r : Req P) :
    let m' := (m.addOrder ops r).1
    m'.cur.mid = midOf ops m'.buys m'.sells ∧
    m'.cur.market = marketRule m.running m.cur.last (midOf ops m'.buys m'.sells) m.cur.market ∧
    m'.cur.last = m.cur.last ∧
    m'.cur.nBuy = m.cur.nBuy + (if r.isBuy then 1 else 0) ∧
    m'.cur.nSell = m.cur.nSell + (if r.isBuy then 0 else 1) ∧
    m'.cur.execVol = m.cur.execVol ∧ m'.cur.turnover = m.cur.turnover ∧ m'.cur.fund = m.cur.fund := by
  unfold Market.addOrder
  cases hb : r.isBuy <;> simp [Market.refresh]

/-- After a cancel. -/
theorem after_cancel (ops : PriceOps P) (m m' : Market P) (id : Nat) (l : CancelLog P)
    (hc : m.cancel ops id = .ok (m', l)) :
    m'.cur.mid = midOf ops m'.buys m'.sells ∧
    m'.cur.market = marketRule m.running m.cur.last (midOf ops m'.buys m'.sells) m.cur.market ∧
    m'.cur.last = m.cur.last ∧ m'.cur.nBuy = m.cur.nBuy ∧ m'.cur.nSell = m.cur.nSell ∧
    m'.cur.execVol = m.cur.execVol ∧ m'.cur.turnover = m.cur.turnover := by
  obtain ⟨o, -, ⟨-, rfl⟩ | ⟨-, rfl⟩ | ⟨-, rfl⟩⟩ := cancel_cases hc <;> simp [Market.refresh]

/-- After a round that produced fills: last-trade price = the round's price, market price = that
price (the market is running), mid refreshed, executed volume and turnover increased by the sums
over the round's fills (turnover folded in fill order), counters untouched. -/
theorem after_round (ops : PriceOps P) (m m' : Market P) (fs : List (Fill P))
    (he : m.execution ops = .ok (m', fs)) (hne : fs ≠ []) :
    (∀ f ∈ fs, m'.cur.last = some f.price ∧ m'.cur.market = (if m.running then some f.price else m.cur.market)) ∧
    m'.cur.mid = midOf ops m'.buys m'.sells ∧
    m'.cur.execVol = m.cur.execVol + (fs.map (·.vol)).sum ∧
    m'.cur.turnover = fs.foldl (fun acc f => ops.addNotional acc f.vol f.price) m.cur.turnover ∧
    m'.cur.nBuy = m.cur.nBuy ∧ m'.cur.nSell = m.cur.nSell ∧ m.running = true := by
  rcases execution_eq_ok.mp he with ⟨-, e⟩ | ⟨-, price, hrp, e, hrun, -⟩ <;> cases e
  · exact absurd rfl hne
  · have hrunning : m.running = true := hrun fun h => hne (by simp [h])
    refine ⟨fun f hf => ?_, rfl, ?_, ?_, rfl, rfl, hrunning⟩
    · obtain ⟨pr, _, rfl⟩ := List.mem_map.mp hf
      simp [Market.refresh, mkFill, hrunning, marketRule]
    · simp [Market.refresh, mkFill, Function.comp_def]
    · simp only [Market.refresh, List.foldl_map, mkFill]

/-- a round without fills leaves the current slot as it was (it changes nothing: `execution_nil`) -/
theorem round_without_fills (ops : PriceOps P) (m m' : Market P)
    (he : m.execution ops = .ok (m', [])) (h : Inv m) : m'.cur = m.cur ∨ m.running = true :=
  .inl (by rw [execution_nil he])

/-- While the market is not running its market price does not move, whatever happens: a
submission, a cancel, a (refused or empty) round, and a clock step carries it over. -/
theorem not_running_frozen (ops : PriceOps P) (m : Market P) (hnr : m.running = false) (o : Op P)
    (hnj : ∀ k f, o ≠ .jump k f) :
    (m.step ops o).1.cur.market = m.cur.market := by
  have frozen : ∀ last mid, marketRule m.running last mid m.cur.market = m.cur.market := by
    simp [marketRule, hnr]
  cases o with
  | jump k f => exact absurd rfl (hnj k f)
  | add r => exact ((after_submission ops m r).2.1).trans (frozen _ _)
  | cancel id =>
    rcases step_cancel ops m id with h | ⟨m', l, hc, h⟩ <;> rw [h] -- a refused cancel: closed by `rw`
    exact ((after_cancel ops m m' id l hc).2.1).trans (frozen _ _)
  | exec =>
    rcases step_exec ops m with h | ⟨price, -, h⟩ <;> rw [h] -- a round without result: closed by `rw`
    exact frozen (some price) (midOf ops (walk m.buys m.sells).2.1 (walk m.buys m.sells).2.2)
  | tick f => exact frozen _ _
  | setRunning b => rfl
  | setFund f => rfl

/-- … and an explicit clock jump (`_set_time`) carries the most recent recorded market price -/
theorem jump_frozen (ops : PriceOps P) (m : Market P) (hnr : m.running = false) (k : Nat) (f : Option P)
    (p : P) (hp : m.cur.market = some p) :
    (m.step ops (.jump k f)).1.cur.market = m.cur.market := by
  simp [Market.step, Market.setTime, hnr, carryOf, List.findSome?_cons, hp]

/-- A clock step carries last-trade and mid price into the new slot, applies the market-price rule
to the carried values, records the fundamental price, and starts the step statistics at zero. -/
theorem clock_step (ops : PriceOps P) (m : Market P) (f : Option P) :
    let m' := (m.tick ops f).1
    m'.cur.last = m.cur.last ∧ m'.cur.mid = m.cur.mid ∧
    m'.cur.market = marketRule m.running m.cur.last m.cur.mid m.cur.market ∧
    m'.cur.fund = f ∧ m'.cur.execVol = 0 ∧ m'.cur.turnover = ops.zero ∧
    m'.cur.nBuy = 0 ∧ m'.cur.nSell = 0 := by
  simp [Market.tick]

/-- Per-price depth describes the book: it accounts for exactly the resting volume, and its first
entry is the best price. -/
theorem depth_total (l : List (Order P)) :
    ((Book.depth l).map (·.2)).sum = (l.map (·.vol)).sum := by
  induction l with
  | nil => simp [Book.depth]
  | cons x xs ih =>
    obtain ⟨w, t, e, h | ⟨rfl, h⟩⟩ := depth_cons x xs <;> rw [e] <;> rw [h] at ih <;>
      simp at ih ⊢ <;> omega

theorem depth_head (x : Order P) (xs : List (Order P)) :
    ((Book.depth (x :: xs)).head?.map (·.1)) = some x.price := by
  obtain ⟨w, t, e, -⟩ := depth_cons x xs
  rw [e]
  rfl

/-- every price level of the depth is the price of a resting order -/
theorem depth_prices_of_orders (l : List (Order P)) :
    ∀ pv ∈ Book.depth l, ∃ o ∈ l, o.price = pv.1 :=
  depth_price_mem l

def natOps : PriceOps Nat := { mid := fun a b => (a + b) / 2, addNotional := fun acc v p => acc + v * p, zero := 0, snap := fun _ p => p }
def demo : Market Nat :=
  ((Market.init natOps 100 (some 100)).runOps natOps
    [.setRunning true,
     .add { agent := 1, isBuy := false, price := some 104, vol := 2, ttl := none },
     .add { agent := 3, isBuy := true, price := some 100, vol := 3, ttl := none },
     .add { agent := 3, isBuy := true, price := some 104, vol := 1, ttl := none }, .exec]).1
theorem nonvacuous : demo.cur.mid = some 102 ∧ demo.cur.last = some 104 ∧ demo.cur.market = some 104 ∧
    demo.cur.execVol = 1 ∧ demo.cur.turnover = 104 ∧ demo.cur.nBuy = 2 ∧ demo.cur.nSell = 1 := by
  decide +kernel

/-- (T) `_update_market_price` in the current sources has the branch structure the model `refresh`
transcribes -/
theorem source_update_market_price :
    Pams.Source.opsOf "Market._update_market_price" = ["is", "is", "is not", "is not", "is not", "is not"] := by decide

end Pams.C08
