/-
C13 / C06 on the *current source text* of `pams/simulator.py` (translated on every run into
`PamsGen.Code`): the nine `_trigger_event_*` dispatchers (with `_check_event_class_and_instance`),
`_add_event` and `_update_times_on_markets` against the hook model `Pams.Hooks` and the scheduler model's
`ticks` — by symbolic execution on a table of sixteen hooks over all nine kinds (always-hooks, time lists
with repeated entries, an empty list, class and instance filters), with the occurrence's time quantified.
The theorems of C13.lean about the model (`dispatch_count`: every registered occasion exactly once, nothing
else) thereby speak about this code on this table; beyond it the tie is the correspondence check.
-/
import PamsLemmas.SrcSimulator

open Pams Pams.Py Pams.Hooks Pams.Src
variable {K : Type} [LinearOrder K] [NumOpsC K]

namespace Pams.C13

/-- **every dispatcher invokes exactly the model's `dispatch`** — the always-hooks of its kind, then the
hooks listing the occurrence's time (the market's clock for order / cancel-before / step occurrences, the
log's time for after-order / after-cancel / after-execution, the session's start for before-session and
`start + steps − 1` for after-session), step occurrences filtered by the hook's class and instance — in
that order, each handler once with `(simulator, occurrence)`; for **every** value of the clocks -/
theorem source_dispatchers_are_model :
    DispatchSpec K "_trigger_event_before_step_for_market" "hooked_before_step_for_market" 5 .marketBefore
      (fun t5 _ _ _ _ => t5) (some (0, false)) ∧
    DispatchSpec K "_trigger_event_before_step_for_market" "hooked_before_step_for_market" 6 .marketBefore
      (fun _ t6 _ _ _ => t6) (some (1, true)) ∧
    DispatchSpec K "_trigger_event_after_step_for_market" "hooked_after_step_for_market" 5 .marketAfter
      (fun t5 _ _ _ _ => t5) (some (0, false)) ∧
    DispatchSpec K "_trigger_event_after_step_for_market" "hooked_after_step_for_market" 6 .marketAfter
      (fun _ t6 _ _ _ => t6) (some (1, true)) ∧
    DispatchSpec K "_trigger_event_before_order" "hooked_before_order" 10 .orderBefore (fun t5 _ _ _ _ => t5) none ∧
    DispatchSpec K "_trigger_event_after_order" "hooked_after_order" 11 .orderAfter (fun _ _ tlog _ _ => tlog) none ∧
    DispatchSpec K "_trigger_event_before_cancel" "hooked_before_cancel" 13 .cancelBefore (fun t5 _ _ _ _ => t5) none ∧
    DispatchSpec K "_trigger_event_after_cancel" "hooked_after_cancel" 11 .cancelAfter (fun _ _ tlog _ _ => tlog) none ∧
    DispatchSpec K "_trigger_event_after_execution" "hooked_after_execution" 11 .executionAfter
      (fun _ _ tlog _ _ => tlog) none ∧
    DispatchSpec K "_trigger_event_before_session" "hooked_before_session" 12 .sessionBefore
      (fun _ _ _ start _ => start) none ∧
    DispatchSpec K "_trigger_event_after_session" "hooked_after_session" 12 .sessionAfter
      (fun _ _ _ start steps => start + steps - 1) none :=
  ⟨dispatch_src_market_before_plain, dispatch_src_market_before_index, dispatch_src_market_after_plain,
   dispatch_src_market_after_index, dispatch_src_order_before, dispatch_src_order_after, dispatch_src_cancel_before,
   dispatch_src_cancel_after, dispatch_src_execution_after, dispatch_src_session_before, dispatch_src_session_after⟩

/-- **`_add_event` is the model's `register`** (a hook with a repeated time is filed once per distinct
time; without a list under `None`; with an empty list nowhere; a hook object registered before is refused) -/
theorem source_add_event_is_model :
    AddEventSpec K hN1 ∧ AddEventSpec K hN2 ∧ AddEventSpec K hN3 ∧ AddEventSpec K hDup :=
  ⟨add_event_src_1, add_event_src_2, add_event_src_3, add_event_src_dup⟩

/-- spelled out: at time 5 the index market's before-step occurrence invokes event 0 (always-hook) and
event 1 (listed `[3, 5, 3]`, index markets only) — **once**, although 5 … 3 repeats in its list —, and not
the hook bound to the instance of market 0; at time 4 the always-hook only -/
theorem source_step_dispatch_examples (t5 tlog start steps : Int) :
    resultG handlerObs (rhoS (K := K) t5 5 tlog start steps) envS FUEL "Simulator._trigger_event_before_step_for_market"
        [.ref 3, .ref 6] (stS tblS)
      = .tuple [.tuple [.str "hooked_before_step_for_market", .ref 60, .tuple [.ref 3, .ref 6]],
                .tuple [.str "hooked_before_step_for_market", .ref 61, .tuple [.ref 3, .ref 6]]] ∧
    resultG handlerObs (rhoS (K := K) t5 4 tlog start steps) envS FUEL "Simulator._trigger_event_before_step_for_market"
        [.ref 3, .ref 6] (stS tblS)
      = .tuple [.tuple [.str "hooked_before_step_for_market", .ref 60, .tuple [.ref 3, .ref 6]]] :=
  ⟨(dispatch_src_market_before_index t5 5 tlog start steps).trans rfl,
   (dispatch_src_market_before_index t5 4 tlog start steps).trans rfl⟩

end Pams.C13

namespace Pams.C06

/-- **`_update_times_on_markets` advances plain markets before index markets**, whatever the order of the
list it is given (the model's `ticks`): an index market never reads a component clock that is behind -/
theorem source_clock_order (ρ : Rho K) :
    resultG handlerObs ρ envT FUEL "Simulator._update_times_on_markets" [.ref 3, .list [.ref 6, .ref 5]] (stS tblS)
      = tickObs (Runner.ticks [(1, true), (0, false)]) ∧
    resultG handlerObs ρ envT FUEL "Simulator._update_times_on_markets" [.ref 3, .list [.ref 5, .ref 6]] (stS tblS)
      = tickObs (Runner.ticks [(0, false), (1, true)]) :=
  ⟨ticks_src_index_first ρ, ticks_src_plain_first ρ⟩

end Pams.C06
