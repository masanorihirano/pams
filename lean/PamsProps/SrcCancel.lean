/-
Property statements about the **translated source** of cancellation (`Market._cancel_order` with
everything it calls, as it stands in /repo; meaning given by PamsModel/Py.lean), from
`Src.cancel_src_obs` (source = spelled-out cancellation, by symbolic execution, PamsLemmas/SrcCancel.lean).
-/
import PamsLemmas.SrcCancel
import PamsProps.SrcAccept

namespace Pams.C04
open Pams Pams.Py Pams.Src Pams.SrcAccept
variable {K : Type} [LinearOrder K] [NumOpsC K]

-- the statements name the whole setting; `hbook hd hmid had hcd` are not needed for what `cancelObs` shows here
set_option linter.unusedVariables false in
/-- **cancelling a resting order that is not the best of its side** (current source): the order is
marked, it leaves its queue — the other order `c` stays —, and the log reports the order's *current*
volume, its id, owner, side, price and the cancel time. -/
theorem source_cancel_non_top (m : Market K) (a c d : Order K) (dflt pc pd md mp : K)
    (hbook : if a.isBuy then m.buys = [c, a] ∧ m.sells = [d] else m.buys = [d] ∧ m.sells = [c, a])
    (hta : a.ttl = none) (hc : c.isBuy = a.isBuy) (hpc : c.price = some pc) (hd : d.isBuy = !a.isBuy)
    (hpd : d.price = some pd) (ht : m.time = 0) (hl : m.cur.last = none) (hmid : m.cur.mid = some md)
    (hmk : m.cur.market = some mp) (hac : a.id ≠ c.id) (had : a.id ≠ d.id) (hcd : c.id ≠ d.id)
    (h2 : (NumOpsC.ofInt 2 : K) ≠ NumOpsC.ofInt 0) :
    let res := resultG cancelObs (rhoCancel m a c d dflt) env XFUEL "Market._cancel_order" [.ref 5, .ref 2]
        (stCancel a.isBuy a.price.isSome .second)
    cnth res 0 = .bool true ∧ cnth res 1 = .int m.time ∧
      cnth res (if a.isBuy then 2 else 3) = .tuple [.ref 3] ∧ cnth res (if a.isBuy then 3 else 2) = .tuple [.ref 4] ∧
      cnth res 6 = .tuple [.int a.id, .int 0, .int m.time, .int a.placedAt, .int a.agent, .bool a.isBuy, .int a.vol,
                           cOpt a.price, .none] := by
  intro res
  have hres : res = canceledObs m a d (Book.remove a.id [c, a]) :=
    cancel_src_obs .second m a c d dflt pc pd mp hta hc hpc hpd ht hl hmk hac h2 nofun
  rw [hres]
  cases ha : a.isBuy <;> simp [cnth, canceledObs, Book.remove, ha, hac.symm, hta, cOptNat]

set_option linter.unusedVariables false in
/-- **cancelling an order that has already left the book** (filled, expired or cancelled before) is
accepted, changes no queue, and reports the volume the order object has now (current source). -/
theorem source_cancel_gone (m : Market K) (a c d : Order K) (dflt pc pd md mp : K) (gk : Gone)
    (hbook : if a.isBuy then m.buys = [c] ∧ m.sells = [d] else m.buys = [d] ∧ m.sells = [c])
    (hta : a.ttl = none) (hc : c.isBuy = a.isBuy) (hpc : c.price = some pc) (hd : d.isBuy = !a.isBuy)
    (hpd : d.price = some pd) (ht : m.time = 0) (hl : m.cur.last = none) (hmid : m.cur.mid = some md)
    (hmk : m.cur.market = some mp) (hac : a.id ≠ c.id) (had : a.id ≠ d.id) (hcd : c.id ≠ d.id)
    (h2 : (NumOpsC.ofInt 2 : K) ≠ NumOpsC.ofInt 0)
    (hg : m.gone.find? (fun g => g.1.id = a.id) = some (a, gk)) :
    let res := resultG cancelObs (rhoCancel m a c d dflt) env XFUEL "Market._cancel_order" [.ref 5, .ref 2]
        (stCancel a.isBuy a.price.isSome .goneOther)
    cnth res (if a.isBuy then 2 else 3) = .tuple [.ref 3] ∧ cnth res (if a.isBuy then 3 else 2) = .tuple [.ref 4] ∧
      cnth (cnth res 6) 6 = .int a.vol := by
  intro res
  have hres : res = canceledObs m a d (Book.remove a.id [c]) :=
    cancel_src_obs .goneOther m a c d dflt pc pd mp hta hc hpc hpd ht hl hmk hac h2 nofun
  rw [hres]
  cases ha : a.isBuy <;> simp [cnth, canceledObs, Book.remove, ha, hac.symm]

end Pams.C04

namespace Pams.C08
open Pams Pams.Py Pams.Src Pams.SrcAccept
variable {K : Type} [LinearOrder K] [NumOpsC K]

set_option linter.unusedVariables false in
/-- **the mid-quote is refreshed at a cancel** (current source): when the best order of a side is
cancelled and another limit order `c` is behind it, the mid-quote becomes the mean of `c`'s price and the
opposite best; when the cancelled order was alone on its side, the mid-quote is `None`. -/
theorem source_cancel_refreshes_mid (m : Market K) (a c d : Order K) (dflt pc pd md mp : K)
    (hta : a.ttl = none) (hc : c.isBuy = a.isBuy) (hpc : c.price = some pc) (hd : d.isBuy = !a.isBuy)
    (hpd : d.price = some pd) (ht : m.time = 0) (hl : m.cur.last = none) (hmid : m.cur.mid = some md)
    (hmk : m.cur.market = some mp) (hac : a.id ≠ c.id) (had : a.id ≠ d.id) (hcd : c.id ≠ d.id)
    (h2 : (NumOpsC.ofInt 2 : K) ≠ NumOpsC.ofInt 0) :
    ((if a.isBuy then m.buys = [a, c] ∧ m.sells = [d] else m.buys = [d] ∧ m.sells = [a, c]) → c.lt a = false →
      cnth (resultG cancelObs (rhoCancel m a c d dflt) env XFUEL "Market._cancel_order" [.ref 5, .ref 2]
        (stCancel a.isBuy a.price.isSome .top)) 4 =
          .tuple [.num (if a.isBuy then (pd + pc) / PyNum.ofInt 2 else (pc + pd) / PyNum.ofInt 2)]) ∧
    ((if a.isBuy then m.buys = [a] ∧ m.sells = [d] else m.buys = [d] ∧ m.sells = [a]) →
      cnth (resultG cancelObs (rhoCancel m a c d dflt) env XFUEL "Market._cancel_order" [.ref 5, .ref 2]
        (stCancel a.isBuy a.price.isSome .alone)) 4 = .tuple [.none]) := by
  constructor
  · intro _ hsort
    rw [cancel_src_obs .top m a c d dflt pc pd mp hta hc hpc hpd ht hl hmk hac h2 (fun _ => hsort)]
    cases ha : a.isBuy <;>
      simp [cnth, canceledObs, Pos.book, Book.remove, ha, hac.symm, midOf, Book.bestPrice, srcOps, hpc, hpd, cOpt]
  · intro _
    rw [cancel_src_obs .alone m a c d dflt pc pd mp hta hc hpc hpd ht hl hmk hac h2 nofun]
    cases ha : a.isBuy <;> simp [cnth, canceledObs, Pos.book, Book.remove, ha, midOf, Book.bestPrice, cOpt]

end Pams.C08
