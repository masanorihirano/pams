/-
Property statements about the **translated source** of order acceptance (`Market._add_order` with
everything it calls, as it stands in /repo; meaning given by PamsModel/Py.lean).  They follow from
`Src.add_src_empty` / `Src.add_src_one_resting` (source = model, by symbolic execution) and, for C19,
from the exact-rational theorems of PamsProps/C19.lean through `snapSrc_rat`.
-/
import PamsLemmas.SrcAdd
import PamsProps.C19

namespace Pams.SrcAccept
open Pams Pams.Py Pams.Src

/-- component `i` of an observed tuple -/
def cnth {K : Type} : CObs K → Nat → CObs K
  | .tuple l, i => l.getD i .absent
  | _, _ => .absent

/-- Python's arithmetic on exact rationals: `%` is `a - b·⌊a / b⌋`, `floor` / `ceil` exact -/
@[reducible] def ratOps : NumOpsC ℚ :=
  { add := (· + ·), sub := (· - ·), mul := (· * ·), div := (· / ·), neg := (- ·), ofInt := fun i => (i : ℚ),
    floor := fun x => ⌊x⌋, ceil := fun x => ⌈x⌉, fmod := fun a b => a - b * (⌊a / b⌋ : ℤ),
    exp := id, log := id, sqrt := id }

/-- on exact rationals the snapping the source performs is the model `Tick.snap` of C19 -/
theorem snapSrc_rat (τ p : ℚ) (b : Bool) (hτ : τ ≠ 0) :
    @snapSrc ℚ _ ratOps τ b p = Tick.snap b p τ := by
  unfold snapSrc Tick.snap
  have hg : (@PyNum.fmod ℚ (@pyNumOfOrder ℚ _ ratOps) p τ = @PyNum.ofInt ℚ (@pyNumOfOrder ℚ _ ratOps) 0) ↔
      Tick.onGrid p τ = true := by
    show (p - τ * (⌊p / τ⌋ : ℤ) = ((0 : ℤ) : ℚ)) ↔ _
    rw [C19.onGrid_iff p τ hτ]
    constructor
    · intro h
      have h' : p - τ * (⌊p / τ⌋ : ℤ) = 0 := by simpa using h
      exact ⟨⌊p / τ⌋, by linarith⟩
    · rintro ⟨n, rfl⟩
      rw [mul_div_assoc, div_self hτ, mul_one]
      simp [mul_comm]
  by_cases hon : Tick.onGrid p τ = true
  · rw [if_pos (hg.mpr hon), if_pos hon]
  · rw [if_neg (fun h => hon (hg.mp h)), if_neg hon]
    cases b
    · show ((⌈p / τ⌉ : ℤ) : ℚ) * τ = _
      simp
    · show ((⌊p / τ⌋ : ℤ) : ℚ) * τ = _
      simp

end Pams.SrcAccept

namespace Pams.C19
open Pams Pams.Py Pams.Src Pams.SrcAccept
variable {K : Type} [LinearOrder K] [NumOpsC K]

/-- **the price the current source accepts**: the order object's price after `_add_order` (and the price
in the returned log) is the submitted price passed through the source's snapping — `floor(p / tick) ·
tick` for a buy order and `ceil(p / tick) · tick` for a sell order when `p % tick ≠ 0`, `p` itself
otherwise; a market order stays without price. -/
theorem source_accepted_price (m : Market K) (r : Req K) (o : Order K) (tick dflt mp : K)
    (hb : m.buys = []) (hs : m.sells = []) (ht : m.time = 0) (hm : m.cur.mid = none)
    (hmk : m.cur.market = some mp) (htick : tick ≠ NumOpsC.ofInt 0) :
    cnth (resultG addObs (rhoAdd m r o tick dflt) env XFUEL "Market._add_order" [.ref 5, .ref 1]
        (stAdd r.isBuy r.price.isSome r.ttl.isSome false 0 .none m.cur.last.isSome false)) 0
      = cOpt (r.price.map (snapSrc tick r.isBuy)) := by
  rw [add_src_empty m r o tick dflt mp hb hs ht hm hmk htick]
  simp [cnth, modelAddObs, Market.addOrder, srcOpsT]

local instance ratInst : NumOpsC ℚ := ratOps

/-- **on exact rationals the current source never makes a price more aggressive**: a buy order is
accepted at a price `≤` the submitted one and `>` it minus one tick, a sell order at a price `≥` it and
`<` it plus one tick, on the grid, and a price on the grid is accepted unchanged. -/
theorem source_snap_never_more_aggressive (m : Market ℚ) (r : Req ℚ) (o : Order ℚ) (τ p dflt mp : ℚ)
    (hb : m.buys = []) (hs : m.sells = []) (ht : m.time = 0) (hm : m.cur.mid = none)
    (hmk : m.cur.market = some mp) (hτ : 0 < τ) (hp : r.price = some p) :
    ∃ q : ℚ,
      cnth (resultG addObs (rhoAdd m r o τ dflt) env XFUEL
          "Market._add_order" [.ref 5, .ref 1]
          (stAdd r.isBuy r.price.isSome r.ttl.isSome false 0 .none m.cur.last.isSome false)) 0 = .num q ∧
      (if r.isBuy then q ≤ p ∧ p - τ < q else p ≤ q ∧ q < p + τ) ∧ (∃ n : ℤ, q = n * τ) ∧
      ((∃ n : ℤ, p = n * τ) → q = p) := by
  have hτ0 : τ ≠ (NumOpsC.ofInt 0 : ℚ) := by
    show τ ≠ ((0 : ℤ) : ℚ)
    simpa using ne_of_gt hτ
  refine ⟨Tick.snap r.isBuy p τ, ?_, ?_, snap_result_on_grid r.isBuy p τ (ne_of_gt hτ),
    fun h => snap_on_grid_id r.isBuy p τ (ne_of_gt hτ) h⟩
  · rw [source_accepted_price m r o τ dflt mp hb hs ht hm hmk hτ0, hp]
    simp only [Option.map, cOpt]
    rw [snapSrc_rat τ p r.isBuy (ne_of_gt hτ)]
  · cases r.isBuy
    · exact snap_sell_bounds p τ hτ
    · exact snap_buy_bounds p τ hτ

end Pams.C19

namespace Pams.C02
open Pams Pams.Py Pams.Src Pams.SrcAccept
variable {K : Type} [LinearOrder K] [NumOpsC K]

/-- **where the current source queues an accepted order**: next to one resting order of its side the
queue after `_add_order` (pop order) is the model's `Book.insert`: the new order (address 1) in front of
the resting one (address 3) exactly when `Order.lt new resting` — market before limit, better price,
earlier acceptance, lower id. -/
theorem source_insertion_priority (m : Market K) (r : Req K) (o : Order K) (tick dflt mp : K)
    (hbook : if r.isBuy then m.buys = [o] ∧ m.sells = [] else m.buys = [] ∧ m.sells = [o])
    (hos : o.isBuy = r.isBuy) (httl : r.ttl = none) (ht : m.time = 0) (hl : m.cur.last = none)
    (hm : m.cur.mid = none) (hmk : m.cur.market = some mp) (htick : tick ≠ NumOpsC.ofInt 0)
    (hoid : o.id ≠ m.nextId) :
    let new : Order K := { id := m.nextId, agent := r.agent, isBuy := r.isBuy,
                           price := r.price.map (snapSrc tick r.isBuy), vol := r.vol, placedAt := m.time, ttl := r.ttl }
    cnth (resultG addObs (rhoAdd m r o tick dflt) env XFUEL "Market._add_order" [.ref 5, .ref 1]
        (stAdd r.isBuy r.price.isSome false false 0 (if o.price.isSome then .limit else .market) false false))
        (if r.isBuy then 3 else 4)
      = .tuple (if new.lt o then [.ref 1, .ref 3] else [.ref 3, .ref 1]) := by
  intro new
  rw [add_src_one_resting m r o tick dflt mp hbook hos httl ht hl hm hmk htick hoid]
  cases hside : r.isBuy
  · rw [hside] at hbook
    simp only [Bool.false_eq_true, if_false] at hbook
    simp [cnth, modelAddObs, Market.addOrder, Market.refresh, srcOpsT, hside, hbook.1, hbook.2, Book.insert, new,
      apply_ite, hoid]
    split <;> simp_all
  · rw [hside] at hbook
    simp only [if_true] at hbook
    simp [cnth, modelAddObs, Market.addOrder, Market.refresh, srcOpsT, hside, hbook.1, hbook.2, Book.insert, new,
      apply_ite, hoid]
    split <;> simp_all

end Pams.C02

namespace Pams.C04
open Pams Pams.Py Pams.Src Pams.SrcAccept
variable {K : Type} [LinearOrder K] [NumOpsC K]

/-- **an order object is accepted at most once, and only by the market it names** (current source): an
order that already carries a stamp, or that names another market, makes `_add_order` raise
`ValueError` — nothing is accepted. -/
theorem source_accept_once (m : Market K) (r : Req K) (o : Order K) (tick dflt : K) :
    resultG addObs (rhoAdd m r o tick dflt) env XFUEL "Market._add_order" [.ref 5, .ref 1]
        (stAdd true true false true 0 .none false false) = .err (.raise "ValueError") ∧
    resultG addObs (rhoAdd m r o tick dflt) env XFUEL "Market._add_order" [.ref 5, .ref 1]
        (stAdd true true false false 1 .none false false) = .err (.raise "ValueError") :=
  ⟨add_src_refused true true false true true false .none _ (Or.inl rfl) rfl,
    add_src_refused true true false false false false .none _ (Or.inl rfl) rfl⟩

/-- **the stamps of an acceptance** (current source): the order gets the market's next id and the
current time, the id counter moves by one, the accepted volume and time-to-live are the submitted
ones, and an order with a time-to-live is filed in the expiry index under `time + ttl`. -/
theorem source_accept_stamps (m : Market K) (r : Req K) (o : Order K) (tick dflt mp : K)
    (hb : m.buys = []) (hs : m.sells = []) (ht : m.time = 0) (hm : m.cur.mid = none)
    (hmk : m.cur.market = some mp) (htick : tick ≠ NumOpsC.ofInt 0) :
    let res := resultG addObs (rhoAdd m r o tick dflt) env XFUEL "Market._add_order" [.ref 5, .ref 1]
        (stAdd r.isBuy r.price.isSome r.ttl.isSome false 0 .none m.cur.last.isSome false)
    cnth res 1 = .int m.nextId ∧ cnth res 2 = .int m.time ∧ cnth res 7 = .int (m.nextId + 1 : Nat) ∧
      cnth (cnth res 12) 5 = .int r.vol ∧ cnth (cnth res 12) 7 = cOptNat r.ttl ∧
      cnth res (if r.isBuy then 5 else 6) =
        (match r.ttl with
         | some t => .tuple [.tuple [.int ((m.time : Int) + t)], .tuple [.tuple [.ref 1]]]
         | none => .tuple [.tuple [], .tuple []]) := by
  intro res
  have hres : res = modelAddObs m r (m.addOrder (srcOpsT K tick) r) :=
    add_src_empty m r o tick dflt mp hb hs ht hm hmk htick
  rw [hres]
  cases hside : r.isBuy <;> simp [cnth, modelAddObs, Market.addOrder, Market.refresh, hside, hb, hs] <;>
    (cases r.ttl <;> rfl)

end Pams.C04

namespace Pams.C08
open Pams Pams.Py Pams.Src Pams.SrcAccept
variable {K : Type} [LinearOrder K] [NumOpsC K]

/-- **what an acceptance into an empty book does to the step's counters and prices** (current source):
the counter of the order's side grows by one and the other one stays; with one side of the book empty
the mid-quote is `None`; the market price is the last trade price if the market is running and a trade
has happened in this step, and otherwise stays what it was. -/
theorem source_accept_counters_and_prices (m : Market K) (r : Req K) (o : Order K) (tick dflt mp : K)
    (hb : m.buys = []) (hs : m.sells = []) (ht : m.time = 0) (hm : m.cur.mid = none)
    (hmk : m.cur.market = some mp) (htick : tick ≠ NumOpsC.ofInt 0) :
    let res := resultG addObs (rhoAdd m r o tick dflt) env XFUEL "Market._add_order" [.ref 5, .ref 1]
        (stAdd r.isBuy r.price.isSome r.ttl.isSome false 0 .none m.cur.last.isSome false)
    cnth res 8 = .tuple [.int (if r.isBuy then m.cur.nBuy + 1 else m.cur.nBuy : Nat)] ∧
      cnth res 9 = .tuple [.int (if r.isBuy then m.cur.nSell else m.cur.nSell + 1 : Nat)] ∧
      cnth res 10 = .tuple [.none] ∧
      cnth res 11 = .tuple [cOpt (marketRule m.running m.cur.last none m.cur.market)] := by
  intro res
  have hres : res = modelAddObs m r (m.addOrder (srcOpsT K tick) r) :=
    add_src_empty m r o tick dflt mp hb hs ht hm hmk htick
  rw [hres]
  cases hside : r.isBuy <;>
    simp [cnth, modelAddObs, Market.addOrder, Market.refresh, midOf, Book.bestPrice, Book.insert, hside, hb, hs, cOpt]

end Pams.C08
