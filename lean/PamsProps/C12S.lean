/-
C12 (continued) — parameter changes: "changing a parameter … at time t never alters values at times
before t, and later values continue from the changed level", and "per-step log-returns have the
configured drift / volatility / correlations" when the configuration changes over time.

Model: PamsModel/FundSched.lean (regeneration point, current parameter set, and — as ghost state —
the parameter set every generated step was generated with).  `sched p0 h u` is the parameter set in
force at step `u` given the setter calls `h` so far: the one installed by the last call (in call
order) whose time lies before `u`.

The theorems hold for the setters as repaired by the `fix:` commit for defect F8 (`_generate_until`
before the change).  For the setters as they stood before, and for the `min(time, generated_until)`
variant, the statement is *false*: `unsettled_setter_loses_change` and `min_setter_applies_change_early`
exhibit the failing histories (the same ones the check found on the real code).
-/
import PamsLemmas.FundSchedLemmas

namespace Pams.C12
open Pams.FundS

variable {P : Type}

/-- **Every final step was generated with the parameter set in force at that step** — after any
sequence of price reads, setter calls (at any times, in any order, with or without reads in between)
and admissible shocks, starting from the initial state: for every step `u` with `1 ≤ u ≤
generated_until`, the parameters the kept price of `u` was generated with are `sched p0 h u`. -/
theorem steps_generated_with_parameters_in_force (p0 : P) (chunk : Nat) (hc : 1 ≤ chunk) (ops : List (Op P))
    (ha : admissibleRun (init p0 chunk) [] ops) (u : Nat) (h1 : 1 ≤ u)
    (hu : u ≤ (run (init p0 chunk) [] ops).1.g) :
    (run (init p0 chunk) [] ops).1.prov[u]? = some (sched p0 (run (init p0 chunk) [] ops).2 u) :=
  (view_final _ hu).symm.trans ((inv_run ops (inv_init p0 chunk hc) ha).view u h1)

/-- a setter call with time `t` governs exactly the steps after `t`: for `u ≤ t` the parameter set in
force is what it was before the call -/
theorem change_governs_later_steps_only (p0 : P) (h : List (Nat × P)) (t : Nat) (x : P) (u : Nat) (hu : u ≤ t) :
    sched p0 (h ++ [(t, x)]) u = sched p0 h u :=
  (sched_snoc p0 h t x u).trans (if_neg (Nat.not_lt.mpr hu))

/-- … and from `t + 1` on it is the set the call installed (until a later call says otherwise) -/
theorem change_governs_later_steps (p0 : P) (h : List (Nat × P)) (t : Nat) (x : P) (u : Nat) (hu : t < u) :
    sched p0 (h ++ [(t, x)]) u = x :=
  (sched_snoc p0 h t x u).trans (if_pos hu)

/-- **A setter call never touches a final step at or before its time**: the generation record of every
step `u ≤ min t generated_until` is unchanged by `change t f` (together with `C12.prefix_kept` — a
chunk keeps the prices up to the regeneration point — no value at a time before `t` changes). -/
theorem change_keeps_final_steps (s : St P) (t : Nat) (f : P → P) (u : Nat) (hl : s.g < s.prov.length)
    (hu : u ≤ s.g) : (s.change t f).prov[u]? = s.prov[u]? :=
  settleLoop_prefix hl hu

/-- a read never touches a final step -/
theorem read_keeps_final_steps (s : St P) (time u : Nat) (hl : s.g < s.prov.length) (hu : u ≤ s.g) :
    (s.read time).prov[u]? = s.prov[u]? :=
  read_eq_settleLoop s time ▸ settleLoop_prefix hl hu

/-- after a setter call the regeneration point is the call's time (the tie `fund.generated_until` of the
correspondence check) -/
theorem change_sets_regeneration_point (s : St P) (t : Nat) (f : P → P) : (s.change t f).g = t := rfl

/-- a read makes everything up to the requested time final (`time < generated_until`) -/
theorem read_final (s : St P) (time : Nat) (hc : 1 ≤ s.chunk) : time < (s.read time).g :=
  read_eq_settleLoop s time ▸ settleLoop_reaches (time + 1) (time + 1) s hc (by omega)

/-! ### the setters before the repair, and the `min` variant, do not have the property -/

/-- parameter sets as numbers: 0 initially, the calls install 1 and then 2 -/
def demoOps : List (Op Nat) := [.read 200, .change 50 (fun _ => 1), .change 120 (fun _ => 2), .read 200]

/-- **defect F8** (the pinned pams): with the unsettled setter, two calls in a row at times 50 and 120
leave step 100 generated with the *initial* parameters although the first call put parameter set 1
in force from step 51 on. -/
theorem unsettled_setter_loses_change :
    let s0 := (init (0 : Nat) 100).read 200
    let s := ((s0.changeUnsettled 50 (fun _ => 1)).changeUnsettled 120 (fun _ => 2)).read 200
    s.prov[100]? = some 0 ∧ sched 0 [(50, 1), (120, 2)] 100 = 1 := by
  decide +kernel

/-- the `min(time, generated_until)` variant (seeded change C12d) applies the second call too early:
step 100 is generated with parameter set 2, which is in force only from step 121 on. -/
theorem min_setter_applies_change_early :
    let s0 := (init (0 : Nat) 100).read 200
    let s := ((s0.changeMin 50 (fun _ => 1)).changeMin 120 (fun _ => 2)).read 200
    s.prov[100]? = some 2 ∧ sched 0 [(50, 1), (120, 2)] 100 = 1 := by
  decide +kernel

/-- the repaired setter on the same history: step 100 carries parameter set 1, step 121 set 2 -/
theorem settled_setter_demo :
    let r := run (init (0 : Nat) 100) [] demoOps
    r.1.prov[100]? = some 1 ∧ r.1.prov[120]? = some 1 ∧ r.1.prov[121]? = some 2 ∧ r.1.prov[50]? = some 0 ∧
      r.2 = [(50, 1), (120, 2)] ∧ 200 < r.1.g := by
  decide +kernel

/-- non-vacuity of the admissibility hypothesis: the demonstration history is admissible -/
theorem demo_admissible : admissibleRun (init (0 : Nat) 100) [] demoOps := by
  simp [demoOps, admissibleRun, Op.admissible]

end Pams.C12
