/-
C12 — Fundamentals: positive geometric walk with configured drift, volatility, correlation.

Partial in one respect (DESIGN section 7): that the draws are independent standard normals is a
property of NumPy's generator, and `L Lᵀ = Σ` of SciPy's Cholesky; what is proved is the algebra
that turns those into the configured drift, volatility and correlation, and all path facts.
-/
import PamsModel.Fundamentals
import PamsLemmas.RealArith
import Mathlib.Tactic.Ring
import Mathlib.Data.Matrix.Basic
import Mathlib.Data.Matrix.Mul

set_option linter.unusedSectionVars false

namespace Pams.C12
open Pams Pams.Fund Pams.C20

theorem genPath_pos (p0 : ℝ) (rs : List ℝ) (h : 0 < p0) : ∀ p ∈ genPath p0 rs, 0 < p := by
  intro p hp
  unfold genPath at hp
  obtain ⟨c, _, rfl⟩ := List.mem_map.mp hp
  exact mul_pos h (Real.exp_pos c)

/-- Fundamental prices stay strictly positive: generation keeps positivity of a whole path. -/
theorem prices_pos (path : List ℝ) (g : Nat) (rs : List ℝ) (h : ∀ p ∈ path, 0 < p) :
    ∀ p ∈ generateNext path g rs, 0 < p := by
  unfold generateNext
  rcases hg : path[g]? with _ | pg
  · exact h
  · intro p hp
    rcases List.mem_append.mp hp with hp | hp
    · exact h p (List.mem_of_mem_take hp)
    · exact genPath_pos pg rs (h pg (List.mem_of_getElem? hg)) p hp

theorem generateNext_getElem? {path : List ℝ} {g : Nat} {rs : List ℝ} {pg : ℝ} (hpg : path[g]? = some pg)
    {i : Nat} :
    (generateNext path g rs)[i]? = if i ≤ g then path[i]? else (genPath pg rs)[i - (g + 1)]? := by
  have hg : g < path.length := (List.getElem?_eq_some_iff.mp hpg).1
  have hl : (path.take (g + 1)).length = g + 1 := by rw [List.length_take]; omega
  simp only [generateNext, hpg, List.getElem?_append, hl, List.getElem?_take, Nat.lt_succ_iff]
  split <;> rfl

/-- Generation never alters values at times ≤ `generated_until`: the prefix is kept. -/
theorem prefix_kept (path : List ℝ) (g : Nat) (rs : List ℝ) (i : Nat) (hi : i ≤ g) (hg : g < path.length) :
    (generateNext path g rs)[i]? = path[i]? := by
  rw [generateNext_getElem? (List.getElem?_eq_getElem hg), if_pos hi]

theorem cumsum_length (acc : ℝ) (rs : List ℝ) : (cumsum acc rs).length = rs.length := by
  induction rs generalizing acc with
  | nil => rfl
  | cons r rs ih => simp [cumsum, ih]

theorem cumsum_get (acc : ℝ) (rs : List ℝ) (j : Nat) (hj : j < rs.length) :
    (cumsum acc rs)[j]? = some (acc + ((rs.take (j + 1)).sum)) := by
  induction rs generalizing acc j with
  | nil => simp at hj
  | cons r rs ih =>
    cases j with
    | zero => simp [cumsum]
    | succ j => simp [cumsum, ih (acc + r) j (by simpa using hj), add_assoc]

theorem genPath_get (p0 : ℝ) (rs : List ℝ) (j : Nat) (hj : j < rs.length) :
    (genPath p0 rs)[j]? = some (p0 * Real.exp ((rs.take (j + 1)).sum)) := by
  unfold genPath
  rw [List.getElem?_map, cumsum_get _ rs j hj]
  simp

/-- Per-step log-returns: each generated price is the previous one times `exp` of that step's
return — later values continue from the level they start at, across the chunk. -/
theorem step_return (p0 : ℝ) (rs : List ℝ) (j : Nat) (hj : j + 1 < rs.length) :
    ∃ a b r, (genPath p0 rs)[j]? = some a ∧ (genPath p0 rs)[j + 1]? = some b ∧ rs[j + 1]? = some r ∧
      b = a * Real.exp r := by
  refine ⟨_, _, rs[j + 1], genPath_get p0 rs j (by omega), genPath_get p0 rs (j + 1) hj,
    List.getElem?_eq_getElem hj, ?_⟩
  rw [List.take_add_one (i := j + 1), List.getElem?_eq_getElem hj]
  simp only [Option.toList_some, List.sum_append, List.sum_cons, List.sum_nil, add_zero]
  rw [Real.exp_add]; ring

/-- the first price of a chunk continues from the last kept price: `p[g+1] = p[g]·exp(r₀)` -/
theorem chunk_continues (path : List ℝ) (g : Nat) (r : ℝ) (rs : List ℝ) (pg : ℝ) (hg : g < path.length)
    (hpg : path[g]? = some pg) :
    (generateNext path g (r :: rs))[g + 1]? = some (pg * Real.exp r) := by
  rw [generateNext_getElem? hpg, if_neg (by omega), Nat.sub_self,
    genPath_get pg (r :: rs) 0 (by simp)]
  simp

/-- With zero volatility the returns are the drift: the path is exactly `p0 · exp(drift · t)`. -/
theorem zero_vol_closed_form (p0 drift : ℝ) (n j : Nat) (hj : j < n) :
    (genPath p0 (List.replicate n drift))[j]? = some (p0 * Real.exp (drift * ((j + 1 : Nat) : ℝ))) := by
  rw [genPath_get p0 _ j (by simpa using hj)]
  congr 2
  rw [List.take_replicate, Nat.min_eq_left (by omega), List.sum_replicate]
  simp [mul_comm]

/-- … and the closed form chains across chunks: continuing from `p0·exp(drift·g)` for `j+1` more
steps gives `p0·exp(drift·(g+j+1))` -/
theorem zero_vol_chains (p0 drift : ℝ) (g n j : Nat) (hj : j < n) :
    (genPath (p0 * Real.exp (drift * (g : ℝ))) (List.replicate n drift))[j]? =
      some (p0 * Real.exp (drift * ((g + j + 1 : Nat) : ℝ))) := by
  rw [zero_vol_closed_form _ drift n j hj]
  congr 1
  rw [mul_assoc, ← Real.exp_add]
  congr 2
  push_cast; ring

/-- Changing a parameter at time `t` restarts generation from `t` (`generated_until := t`):
values at times ≤ t are kept whatever the new returns are (this is `prefix_kept`).  A shock at
time `t` keeps every value before `t`, sets the value at `t` to the scaled level, and restarts
generation there, so later values continue from the changed level. -/
theorem shock_spec (path : List ℝ) (t : Nat) (scale : ℝ) (pt : ℝ) (ht : t < path.length)
    (hpt : path[t]? = some pt) :
    (shock path t scale).2 = t ∧
    (∀ i, i < t → (shock path t scale).1[i]? = path[i]?) ∧
    (shock path t scale).1[t]? = some (pt * scale) ∧
    (∀ r rs, (generateNext (shock path t scale).1 t (r :: rs))[t + 1]? = some (pt * scale * Real.exp r)) := by
  unfold shock
  rw [hpt]
  exact ⟨rfl, fun i hi => List.getElem?_set_ne (by omega), List.getElem?_set_self ht, fun r rs =>
    chunk_continues _ t r rs _ (by simpa using ht) (List.getElem?_set_self ht)⟩

/-- a shock touches one market's path only: other markets' paths are other lists (the model keeps
one path per market; `Market.change_fundamental_price` writes `prices[self.market_id]`) -/
theorem shock_only_target (paths : Nat → List ℝ) (target t : Nat) (scale : ℝ) (m : Nat) (hm : m ≠ target) :
    (fun k => if k = target then (shock (paths k) t scale).1 else paths k) m = paths m := by
  simp [hm]

/-- the generation loop of `get_fundamental_price`: chunk after chunk, each continuing from the
last generated time; returns the path and the new `generated_until` -/
noncomputable def genAll (path : List ℝ) (g : Nat) : List (List ℝ) → List ℝ × Nat
  | [] => (path, g)
  | rs :: rest => genAll (generateNext path g rs) (g + rs.length) rest

theorem generateNext_length (path : List ℝ) (g : Nat) (rs : List ℝ) (hg : path.length = g + 1) :
    (generateNext path g rs).length = g + rs.length + 1 := by
  unfold generateNext
  rw [List.getElem?_eq_getElem (by omega)]
  simp [genPath, cumsum_length, hg]; omega

/-- whatever the chunking, all prices stay strictly positive -/
theorem genAll_pos (path : List ℝ) (g : Nat) (chunks : List (List ℝ)) (h : ∀ p ∈ path, 0 < p) :
    ∀ p ∈ (genAll path g chunks).1, 0 < p := by
  induction chunks generalizing path g with
  | nil => exact h
  | cons rs rest ih => exact ih _ _ (prices_pos path g rs h)

/-- whatever is generated later, values at times ≤ `generated_until` never change -/
theorem genAll_prefix (path : List ℝ) (g : Nat) (chunks : List (List ℝ)) (hg : path.length = g + 1)
    (i : Nat) (hi : i ≤ g) : (genAll path g chunks).1[i]? = path[i]? := by
  induction chunks generalizing path g with
  | nil => rfl
  | cons rs rest ih =>
    unfold genAll
    rw [ih _ _ (generateNext_length path g rs hg) (by omega)]
    exact prefix_kept path g rs i hi (by omega)

/-- from a path on the closed form up to `g`, any sequence of zero-volatility chunks stays on it -/
theorem zero_vol_genAll (p0 drift : ℝ) (ns : List Nat) (path : List ℝ) (g : Nat)
    (hp : ∀ i ≤ g, path[i]? = some (p0 * Real.exp (drift * (i : ℝ)))) :
    ∀ j ≤ g + ns.sum, (genAll path g (ns.map (fun n => List.replicate n drift))).1[j]? =
      some (p0 * Real.exp (drift * (j : ℝ))) := by
  induction ns generalizing path g with
  | nil => simpa [genAll] using hp
  | cons n ns ih =>
    intro j hj
    simp only [List.map_cons, genAll, List.length_replicate]
    refine ih _ _ (fun i hi => ?_) j (by rw [List.sum_cons] at hj; omega)
    -- a time of this chunk continues the closed form from time `g`
    rw [generateNext_getElem? (hp g le_rfl)]
    split
    · exact hp i ‹_›
    · rw [zero_vol_chains p0 drift g n _ (by omega), show g + (i - (g + 1)) + 1 = i by omega]

/-- **zero volatility, any horizon, any chunking**: the path is exactly `p0 · exp(drift · t)` at
every generated time `t` -/
theorem zero_vol_any_chunking (p0 drift : ℝ) (ns : List Nat) (j : Nat) (hj : j ≤ ns.sum) :
    (genAll [p0] 0 (ns.map (fun n => List.replicate n drift))).1[j]? =
      some (p0 * Real.exp (drift * (j : ℝ))) :=
  zero_vol_genAll p0 drift ns [p0] 0 (by simp) j (by rwa [Nat.zero_add])

open Matrix

variable {m n : Type} [Fintype m] [Fintype n] [DecidableEq m]

/-- If the standardised sample `Z` has sample second moment `Z Zᵀ = N·I`, the transformed sample
`L Z` has second moment `N · L Lᵀ`; with `L Lᵀ = D ρ D` (Cholesky of the configured covariance)
this is `N · D ρ D`: per-market variance `volᵢ²` and cross moments `volᵢ ρᵢⱼ volⱼ`. -/
theorem return_transform_cov (L : Matrix m m ℝ) (Z : Matrix m n ℝ) (N : ℝ)
    (hZ : Z * Zᵀ = N • (1 : Matrix m m ℝ)) :
    (L * Z) * (L * Z)ᵀ = N • (L * Lᵀ) := by
  rw [Matrix.transpose_mul, ← Matrix.mul_assoc, Matrix.mul_assoc L Z, hZ, Matrix.mul_smul,
    Matrix.mul_one, Matrix.smul_mul]

/-- adding the drift shifts every sample by the drift and nothing else: centred returns are `L Z` -/
theorem return_transform_mean (L : Matrix m m ℝ) (Z : Matrix m n ℝ) (drift : m → ℝ) :
    (Matrix.of (fun i j => (L * Z) i j + drift i) - Matrix.of (fun i (_ : n) => drift i)) = L * Z := by
  ext i j; simp

/-- the covariance built from volatilities and correlations has `volᵢ²` on the diagonal and
`volᵢ·ρᵢⱼ·volⱼ` off it: standard deviation `volᵢ`, correlation `ρᵢⱼ` -/
theorem cov_entries (vol : m → ℝ) (rho : Matrix m m ℝ) (hdiag : ∀ i, rho i i = 1) (i j : m) :
    (Matrix.diagonal vol * rho * Matrix.diagonal vol) i j = vol i * rho i j * vol j ∧
    (Matrix.diagonal vol * rho * Matrix.diagonal vol) i i = vol i ^ 2 := by
  simp only [Matrix.mul_diagonal, Matrix.diagonal_mul, hdiag, mul_one, sq, and_self]

theorem nonvacuous : ∀ p ∈ generateNext [(300 : ℝ), 301] 1 [0.01, -0.02], 0 < p :=
  prices_pos _ _ _ (by intro p hp; simp at hp; rcases hp with rfl | rfl <;> norm_num)

end Pams.C12
