/-
C20 — Built-in agents emit well-formed orders that follow their documented strategy.
-/
import PamsLemmas.SourceTie
import PamsLemmas.RealArith
import Mathlib.Tactic.Linarith
import Mathlib.Tactic.Ring

namespace Pams.C20
open Pams Pams.Agents

/-- the documented weighted combination of fundamental, chart and noise log-returns -/
theorem fcn_log_return_formula (mp fund mpPast wf wc wn noise : ℝ) (tw mrt : Nat) :
    fcnLogReturn mp fund mpPast wf wc wn noise tw mrt true =
      (wf * (Real.log (fund / mp) / (max mrt 1 : Nat)) + wc * (Real.log (mp / mpPast) / (max tw 1 : Nat))
        + wn * noise) / (wf + wc + wn) := by
  unfold fcnLogReturn
  simp only [r_one, r_ofNat, r_log, ↓reduceIte]
  ring

/-- An FCN agent buys exactly when its expected future price exceeds the market price, which is
exactly when expected log return × window is positive; it sells exactly when it is below; never
both; and nothing when they are equal. -/
theorem fcn_side_iff (mp elr margin : ℝ) (window : Nat) (hmp : 0 < mp) :
    let e := fcnExpected mp elr window
    (mp < e ↔ 0 < elr * window) ∧ (e < mp ↔ elr * window < 0) ∧
    ((fcnOrders mp e margin window).map (·.isBuy) =
      if 0 < elr * window then [true] else if elr * window < 0 then [false] else []) := by
  simp only [fcnExpected, r_exp, r_ofNat]
  have h1 : mp < mp * Real.exp (elr * window) ↔ 0 < elr * window :=
    (lt_mul_iff_one_lt_right hmp).trans Real.one_lt_exp_iff
  have h2 : mp * Real.exp (elr * window) < mp ↔ elr * window < 0 :=
    (mul_lt_iff_lt_one_right hmp).trans Real.exp_lt_one_iff
  refine ⟨h1, h2, ?_⟩
  simp only [fcnOrders, h1, h2]
  by_cases hp : 0 < elr * window
  · simp [hp, not_lt.mpr hp.le]
  · by_cases hq : elr * window < 0 <;> simp [hp, hq]

/-- The quote is the expected price shaded by the margin: a buy order bids no more, a sell order
asks no less than the expected price (margin in [0,1]); volume 1, lifetime = window. -/
theorem fcn_price_shaded (mp e margin : ℝ) (window : Nat) (he : 0 < e) (hm0 : 0 ≤ margin) (hm1 : margin ≤ 1) :
    ∀ o ∈ fcnOrders mp e margin window,
      o.vol = 1 ∧ o.ttl = window ∧ 0 ≤ o.price ∧
      (o.isBuy = true → o.price = e * (1 - margin) ∧ o.price ≤ e) ∧
      (o.isBuy = false → o.price = e * (1 + margin) ∧ e ≤ o.price) := by
  intro o ho
  simp only [fcnOrders, List.mem_append, List.mem_ite_nil_right, List.mem_singleton, r_one] at ho
  rcases ho with ⟨_, rfl⟩ | ⟨_, rfl⟩
  · exact ⟨rfl, rfl, mul_nonneg he.le (by linarith),
      fun _ => ⟨rfl, mul_le_of_le_one_right he.le (by linarith)⟩, nofun⟩
  · exact ⟨rfl, rfl, mul_nonneg he.le (by linarith), nofun,
      fun _ => ⟨rfl, le_mul_of_one_le_right he.le (by linarith)⟩⟩

/-- A market maker quotes one buy and one sell, symmetric around its base price and separated by
fundamental price × spread. -/
theorem mm_symmetric (base fund spread : ℝ) (ttl : Nat) :
    ∃ b s, mmOrders base fund spread (1 / 2) ttl = [b, s] ∧ b.isBuy = true ∧ s.isBuy = false ∧
      s.price - b.price = fund * spread ∧ (b.price + s.price) / 2 = base ∧
      b.vol = 1 ∧ s.vol = 1 ∧ b.ttl = ttl ∧ s.ttl = ttl := by
  refine ⟨_, _, rfl, rfl, rfl, ?_, ?_, rfl, rfl, rfl, rfl⟩ <;> ring

/-- its base price: the midpoint of the highest accessible bid and the lowest accessible ask, or the
target's market price when a side is missing -/
theorem mm_base (b s mp : ℝ) :
    mmBase (some b) (some s) mp 2 = (b + s) / 2 ∧ mmBase none (some s) mp 2 = mp ∧
    mmBase (some b) none mp 2 = mp ∧ mmBase (none : Option ℝ) none mp 2 = mp := ⟨rfl, rfl, rfl, rfl⟩

/-- An arbitrage agent acts only when index price and computed index differ by more than its
threshold (strictly), buying the cheaper leg. -/
theorem arb_threshold (ip idx th : ℝ) (hth : 0 ≤ th) :
    (arbSide ip idx th = none ↔ |ip - idx| ≤ th) ∧
    (arbSide ip idx th = some true ↔ th < idx - ip) ∧
    (arbSide ip idx th = some false ↔ th < ip - idx) := by
  -- with a non-negative threshold the gap test implies the side test
  have e1 : (ip < idx ∧ th < idx - ip) ↔ th < idx - ip := and_iff_right_of_imp fun h => by linarith
  have e2 : (idx < ip ∧ th < ip - idx) ↔ th < ip - idx := and_iff_right_of_imp fun h => by linarith
  simp only [arbSide, e1, e2, abs_le]
  split_ifs with h1 h2
  · exact ⟨iff_of_false nofun fun ⟨h, _⟩ => by linarith, iff_of_true rfl h1,
      iff_of_false nofun (by linarith)⟩
  · exact ⟨iff_of_false nofun fun ⟨_, h⟩ => by linarith, iff_of_false nofun h1, iff_of_true rfl h2⟩
  · exact ⟨iff_of_true rfl ⟨by linarith, by linarith⟩, iff_of_false nofun h1, iff_of_false nofun h2⟩

/-- When it acts it sends a hedged basket: one index order of n × v against n component orders of v
on the opposite side, each priced at the respective market price. -/
theorem arb_hedged (buyIndex : Bool) (im : Nat) (ip : ℝ) (comps : List (Nat × ℝ)) (v ttl : Nat) :
    let os := arbOrders (some buyIndex) im ip comps v ttl
    os.length = comps.length + 1 ∧
    os.head? = some (im, { isBuy := buyIndex, price := ip, vol := comps.length * v, ttl := ttl }) ∧
    (∀ o ∈ os.tail, o.2.isBuy = !buyIndex ∧ o.2.vol = v ∧ o.2.ttl = ttl ∧ (o.1, o.2.price) ∈ comps) ∧
    ((os.tail.map (·.2.vol)).sum = comps.length * v) := by
  simp only [arbOrders, List.length_cons, List.length_map, List.head?_cons, List.tail_cons, true_and]
  refine ⟨?_, ?_⟩
  · intro o ho
    obtain ⟨c, hc, rfl⟩ := List.mem_map.mp ho
    exact ⟨rfl, rfl, rfl, hc⟩
  · simp [Function.comp_def]

theorem arb_idle (im : Nat) (ip : ℝ) (comps : List (Nat × ℝ)) (v ttl : Nat) :
    arbOrders none im ip comps v ttl = [] := rfl

/-- (T) the strict threshold comparisons of `ArbitrageAgent._submit_orders` and the strict side tests
of `FCNAgent.submit_orders_by_market` in the current sources -/
theorem source_agent_tests :
    Pams.Source.opsOf "ArbitrageAgent._submit_orders" = [">", "<", ">", ">", ">"] ∧
    Pams.Source.opsOf "FCNAgent.submit_orders_by_market" =
      [">=", ">=", ">=", ">=", "==", "<= <=", ">", "<", "==", ">=", ">=", ">", ">", "<"] := by decide +kernel

end Pams.C20
