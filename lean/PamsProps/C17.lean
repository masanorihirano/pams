/-
C17 — Index market values are share-weighted averages of their components.
-/
import PamsModel.Index
import PamsLemmas.FieldArith
import PamsModel.Runner
import Mathlib.Algebra.BigOperators.Group.List.Basic
import Mathlib.Tactic.Ring
import Mathlib.Algebra.Order.Field.Rat

namespace Pams.C17
open Pams Pams.Index

variable {K : Type} [Field K] [LinearOrder K] [IsStrictOrderedRing K]

/-- total value and total shares as plain sums -/
def sumValue (comps : List (K × Nat)) : K := (comps.map (fun c => c.1 * (c.2 : K))).sum
def sumShares (comps : List (K × Nat)) : Nat := (comps.map (·.2)).sum

@[simp] theorem sumValue_nil : sumValue ([] : List (K × Nat)) = 0 := rfl
@[simp] theorem sumValue_cons (c : K × Nat) (cs : List (K × Nat)) :
    sumValue (c :: cs) = c.1 * (c.2 : K) + sumValue cs := rfl
@[simp] theorem sumShares_nil : sumShares ([] : List (K × Nat)) = 0 := rfl
@[simp] theorem sumShares_cons (c : K × Nat) (cs : List (K × Nat)) :
    sumShares (c :: cs) = c.2 + sumShares cs := rfl

theorem totals_from (comps : List (K × Nat)) (a : K) (n : Nat) :
    comps.foldl (fun acc c => (acc.1 + c.1 * Arith.ofNat c.2, acc.2 + c.2)) (a, n) =
      (a + sumValue comps, n + sumShares comps) := by
  induction comps generalizing a n with
  | nil => simp
  | cons c cs ih => rw [List.foldl_cons, ih, sumValue_cons, sumShares_cons, add_assoc, Nat.add_assoc]; rfl

theorem totals_eq (comps : List (K × Nat)) : totals comps = (sumValue comps, sumShares comps) :=
  (totals_from comps 0 0).trans (by rw [zero_add, Nat.zero_add])

/-- The index value is the share-weighted average of the component prices:
`(Σ pᵢ·sᵢ) / (Σ sᵢ)`. -/
theorem index_weighted_avg (comps : List (K × Nat)) :
    indexValue comps = sumValue comps / (sumShares comps : K) := by
  simp [indexValue, totals_eq]

theorem sumValue_bounds {comps : List (K × Nat)} {lo hi : K} (hb : ∀ c ∈ comps, lo ≤ c.1 ∧ c.1 ≤ hi) :
    lo * (sumShares comps : K) ≤ sumValue comps ∧ sumValue comps ≤ hi * (sumShares comps : K) := by
  induction comps with
  | nil => simp
  | cons c cs ih =>
    have ⟨h1, h2⟩ := ih (fun x hx => hb x (List.mem_cons_of_mem _ hx))
    have ⟨h3, h4⟩ := hb c List.mem_cons_self
    have h5 : (0 : K) ≤ (c.2 : K) := Nat.cast_nonneg _
    rw [sumValue_cons, sumShares_cons, Nat.cast_add, mul_add, mul_add]
    exact ⟨add_le_add (mul_le_mul_of_nonneg_right h3 h5) h1,
      add_le_add (mul_le_mul_of_nonneg_right h4 h5) h2⟩

/-- The weighted average lies between any bounds on the component prices (in particular between
the smallest and the largest component price) when every component has a positive share count. -/
theorem index_between (comps : List (K × Nat)) (lo hi : K) (hne : comps ≠ [])
    (hpos : ∀ c ∈ comps, 0 < c.2) (hb : ∀ c ∈ comps, lo ≤ c.1 ∧ c.1 ≤ hi) :
    lo ≤ indexValue comps ∧ indexValue comps ≤ hi := by
  have hS : (0 : K) < (sumShares comps : K) := by
    obtain ⟨c, cs, rfl⟩ := List.exists_cons_of_ne_nil hne
    exact Nat.cast_pos.mpr (Nat.add_pos_left (hpos c List.mem_cons_self) _)
  have ⟨hlo, hhi⟩ := sumValue_bounds hb
  rw [index_weighted_avg]
  exact ⟨(le_div_iff₀ hS).mpr hlo, (div_le_iff₀ hS).mpr hhi⟩

theorem sums_equal_shares {comps : List (K × Nat)} {s : Nat} (heq : ∀ c ∈ comps, c.2 = s) :
    sumValue comps = (comps.map (·.1)).sum * (s : K) ∧ sumShares comps = comps.length * s := by
  induction comps with
  | nil => simp
  | cons c cs ih =>
    have ⟨h1, h2⟩ := ih (fun x hx => heq x (List.mem_cons_of_mem _ hx))
    rw [sumValue_cons, sumShares_cons, h1, h2, heq c List.mem_cons_self, List.map_cons, List.sum_cons,
      List.length_cons]
    exact ⟨by ring, by ring⟩

/-- With equal share counts the index is the plain arithmetic mean. -/
theorem index_equal_shares (comps : List (K × Nat)) (s : Nat) (hs : 0 < s)
    (heq : ∀ c ∈ comps, c.2 = s) (hne : comps ≠ []) :
    indexValue comps = (comps.map (·.1)).sum / (comps.length : K) := by
  have ⟨h1, h2⟩ := sums_equal_shares heq
  rw [index_weighted_avg, h1, h2, Nat.cast_mul, mul_div_mul_right _ _ (Nat.cast_ne_zero.mpr hs.ne')]

/-- The fundamental value an index market records when the clock advances is computed after all
its components have advanced: the scheduler advances every non-index market before any index
market (C06), so the components' values for the new time exist and are the ones averaged. -/
theorem index_fund_after_components (ms : Pams.Runner.Markets) :
    Pams.Runner.ticks ms =
      ((ms.filter (fun m => !m.2)).map (fun m => Pams.Runner.Ev.tick m.1)) ++
      ((ms.filter (fun m => m.2)).map (fun m => Pams.Runner.Ev.tick m.1)) :=
  rfl

/-- components must be distinct markets that declare outstanding shares -/
def addComponent (comps : List (Nat × Nat)) (m : Nat) (shares : Option Nat) : Option (List (Nat × Nat)) :=
  if comps.any (fun c => c.1 = m) then none
  else match shares with
    | none => none
    | some s => some (comps ++ [(m, s)])

theorem components_distinct_with_shares (comps : List (Nat × Nat)) (m : Nat) (shares : Option Nat)
    (r : List (Nat × Nat)) (h : addComponent comps m shares = some r) :
    (∀ c ∈ comps, c.1 ≠ m) ∧ ∃ s, shares = some s ∧ r = comps ++ [(m, s)] := by
  unfold addComponent at h
  split at h
  · cases h
  · rename_i ha
    cases shares with
    | none => cases h
    | some s =>
      exact ⟨fun c hc e => ha (List.any_eq_true.mpr ⟨c, hc, decide_eq_true e⟩), s, rfl,
        (Option.some.inj h).symm⟩

theorem nonvacuous : indexValue ([(300, 1000), (100, 3000)] : List (ℚ × Nat)) = 150 := by
  rw [index_weighted_avg]; norm_num [sumValue, sumShares]

end Pams.C17
