/-
C05 — Cash and shares are conserved; holdings equal endowment plus own fills.
-/
import PamsModel.Ledger
import PamsLemmas.SourceTie
import PamsLemmas.RunnerLemmas
import Mathlib.Algebra.Group.Basic
import Mathlib.Algebra.BigOperators.Group.List.Basic
import Mathlib.Tactic.Abel

namespace Pams.C05
open Pams.Ledger Pams.Runner

variable {R : Type} [AddCommGroup R]

/-- the exact-arithmetic instance of the ledger -/
def apply1 (b : Book R) (f : LFill R) : Book R := applyFill (· - ·) (· + ·) b f

/-- Each fill changes only the buyer's and the seller's holdings, and only in the fill's market. -/
theorem applyFill_local (b : Book R) (f : LFill R) (a : Nat) (ha : a ≠ f.buyer) (hs : a ≠ f.seller) :
    (apply1 b f).cash a = b.cash a ∧ ∀ m, (apply1 b f).shares a m = b.shares a m := by
  simp [apply1, applyFill, setCash, setShares, ha, hs]

theorem applyFill_other_market (b : Book R) (f : LFill R) (a m : Nat) (hm : m ≠ f.market) :
    (apply1 b f).shares a m = b.shares a m := by
  simp [apply1, applyFill, setShares, hm]

/-- what a fill does to its parties (buyer ≠ seller): price×volume of cash from buyer to seller,
volume shares from seller to buyer -/
theorem applyFill_parties (b : Book R) (f : LFill R) (h : f.buyer ≠ f.seller) :
    (apply1 b f).cash f.buyer = b.cash f.buyer - f.amount ∧
    (apply1 b f).cash f.seller = b.cash f.seller + f.amount ∧
    (apply1 b f).shares f.buyer f.market = b.shares f.buyer f.market + f.vol ∧
    (apply1 b f).shares f.seller f.market = b.shares f.seller f.market - f.vol := by
  have h' : f.seller ≠ f.buyer := fun e => h e.symm
  simp [apply1, applyFill, setCash, setShares, h, h']

/-- a self-trade leaves the agent's holdings unchanged -/
theorem applyFill_self (b : Book R) (f : LFill R) (h : f.buyer = f.seller) :
    (apply1 b f).cash f.buyer = b.cash f.buyer ∧
    (apply1 b f).shares f.buyer f.market = b.shares f.buyer f.market := by
  simp [apply1, applyFill, setCash, setShares, h]

theorem sum_map_set {G : Type} [AddCommGroup G] {l : List Nat} (hnd : l.Nodup) (g g' : Nat → G)
    {a : Nat} (ha : a ∈ l) (h : ∀ x, x ≠ a → g' x = g x) :
    (l.map g').sum = (l.map g).sum - g a + g' a := by
  have hp := List.perm_cons_erase ha
  have : (l.erase a).map g' = (l.erase a).map g :=
    List.map_congr_left fun x hx => h x fun e => hnd.not_mem_erase (e ▸ hx)
  rw [(hp.map g').sum_eq, (hp.map g).sum_eq, List.map_cons, List.map_cons, this,
    List.sum_cons, List.sum_cons]
  abel

theorem sum_setCash {l : List Nat} (hnd : l.Nodup) {c : Nat → R} {a : Nat} {v : R} (ha : a ∈ l) :
    (l.map (setCash c a v)).sum = (l.map c).sum - c a + v := by
  simpa [setCash] using sum_map_set hnd c (setCash c a v) ha fun x hx => by simp [setCash, hx]

/-- Total cash is conserved by every fill (exactly, in exact arithmetic). -/
theorem cash_conserved (agents : List Nat) (hnd : agents.Nodup) (b : Book R) (f : LFill R)
    (hb : f.buyer ∈ agents) (hs : f.seller ∈ agents) :
    (agents.map (apply1 b f).cash).sum = (agents.map b.cash).sum := by
  simp only [apply1, applyFill]
  rw [sum_setCash hnd hs, sum_setCash hnd hb]
  abel

theorem sum_setShares {l : List Nat} (hnd : l.Nodup) {s : Nat → Nat → Int} {a m : Nat} {v : Int}
    (ha : a ∈ l) :
    (l.map (fun x => setShares s a m v x m)).sum = (l.map (fun x => s x m)).sum - s a m + v := by
  simpa [setShares] using
    sum_map_set hnd (s · m) (setShares s a m v · m) ha fun x hx => by simp [setShares, hx]

/-- The total number of shares of every market is conserved by every fill. -/
theorem shares_conserved (agents : List Nat) (hnd : agents.Nodup) (b : Book R) (f : LFill R)
    (hb : f.buyer ∈ agents) (hs : f.seller ∈ agents) (m : Nat) :
    (agents.map (fun a => (apply1 b f).shares a m)).sum = (agents.map (fun a => b.shares a m)).sum := by
  by_cases hm : m = f.market
  · subst hm
    simp only [apply1, applyFill]
    rw [sum_setShares hnd hs, sum_setShares hnd hb]
    omega
  · congr 1
    apply List.map_congr_left
    intro a _
    exact applyFill_other_market b f a m hm

/-- Both totals are conserved by any sequence of fills between registered agents: at every moment
holdings are the endowment folded, in order, with the fills so far (`applyFills` *is* that fold). -/
theorem totals_conserved (agents : List Nat) (hnd : agents.Nodup) (b : Book R) (fs : List (LFill R))
    (hp : ∀ f ∈ fs, f.buyer ∈ agents ∧ f.seller ∈ agents) :
    (agents.map (applyFills (· - ·) (· + ·) b fs).cash).sum = (agents.map b.cash).sum ∧
    ∀ m, (agents.map (fun a => (applyFills (· - ·) (· + ·) b fs).shares a m)).sum =
         (agents.map (fun a => b.shares a m)).sum := by
  induction fs generalizing b with
  | nil => exact ⟨rfl, fun _ => rfl⟩
  | cons f fs ih =>
    have h := ih (apply1 b f) (fun g hg => hp g (by simp [hg]))
    have hf := hp f (by simp)
    simp only [applyFills, List.foldl_cons] at h ⊢
    refine ⟨h.1.trans (cash_conserved agents hnd b f hf.1 hf.2), fun m => ?_⟩
    exact (h.2 m).trans (shares_conserved agents hnd b f hf.1 hf.2 m)

/-- The runner applies the fills of each round exactly once, as a whole, right after the round and
before any party is notified: the only ledger event of a processed request follows its
`execution` event directly and precedes all `cbExecuted` events of the round. -/
theorem ledger_once_per_round (t : Nat) (r : Request) (fs : List RFill)
    (ha : r.accepted = true) (hf : r.fills = some fs) :
    let pre : List Ev :=
      if r.isCancel then [Ev.hookCancelBefore r.ref t, Ev.cancel r.market r.ref,
                          Ev.cbCanceled r.owner r.ref, Ev.hookCancelAfter r.ref t]
      else [Ev.hookOrderBefore r.ref t, Ev.addOrder r.market r.ref,
            Ev.cbSubmitted r.owner r.ref, Ev.hookOrderAfter r.ref t]
    (processRequest t true r).tr =
        pre ++ [Ev.execution r.market, Ev.ledger (fs.map (·.ref))] ++ fillEvents t fs ∧
      (∀ e ∈ pre, e.isLedger = false ∧ e.isExec = false) ∧
      (∀ e ∈ fillEvents t fs, e.isLedger = false ∧ e.isExec = false) :=
  ⟨processRequest_round ha hf,
    ownEvents_all (fun _ => ⟨⟨rfl, rfl⟩, ⟨rfl, rfl⟩, ⟨rfl, rfl⟩, ⟨rfl, rfl⟩⟩)
      fun _ => ⟨⟨rfl, rfl⟩, ⟨rfl, rfl⟩, ⟨rfl, rfl⟩, ⟨rfl, rfl⟩⟩,
    fillEvents_all fun _ _ => ⟨⟨rfl, rfl⟩, ⟨rfl, rfl⟩, ⟨rfl, rfl⟩⟩⟩

/-- no ledger update without a round -/
theorem no_ledger_without_round (t : Nat) (r : Request) :
    ∀ e ∈ (processRequest t false r).tr, e.isLedger = false :=
  processRequest_all (ownEvents_all (fun _ => ⟨rfl, rfl, rfl, rfl⟩) fun _ => ⟨rfl, rfl, rfl, rfl⟩)
    rfl nofun

def b0 : Book Int := { cash := fun _ => 1000, shares := fun _ _ => 50 }
def f0 : LFill Int := { buyer := 1, seller := 2, market := 0, amount := 300, vol := 3 }
theorem nonvacuous : (apply1 b0 f0).cash 1 = 700 ∧ (apply1 b0 f0).cash 2 = 1300 ∧
    (apply1 b0 f0).shares 1 0 = 53 ∧ (apply1 b0 f0).shares 2 0 = 47 ∧ (apply1 b0 f0).shares 2 1 = 50 := by
  decide

/-- (T) in the current sources, on every path of the request loop on which a round runs, the ledger
update is called exactly once, outside the per-fill loop and before the first notification -/
theorem source_ledger_once_before_notifications :
    ∀ x ∈ PamsGen.requestPaths, x.2.2.1 = true →
      x.2.2.2.count "_update_agents_for_execution" = 1 ∧
      x.2.2.2.idxOf "_update_agents_for_execution" < x.2.2.2.idxOf "for[" ∧
      x.2.2.2.idxOf "for[" < x.2.2.2.idxOf "executed_order" := by decide +kernel

/-- … and on the paths without a round it is not called at all -/
theorem source_no_ledger_without_round :
    ∀ x ∈ PamsGen.requestPaths, x.2.2.1 = false → x.2.2.2.count "_update_agents_for_execution" = 0 := by decide +kernel

end Pams.C05
