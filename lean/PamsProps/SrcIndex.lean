/-
C17 at the level of the **translated source**: `IndexMarket.compute_market_index` /
`compute_fundamental_index` as they stand in /repo (PamsLemmas/SrcIndex.lean, by symbolic execution),
and — with the arithmetic of an ordered field — the share-weighted average the property speaks of.
-/
import PamsLemmas.SrcIndex
import Batteries.Tactic.Alias
import PamsProps.C17

namespace Pams.C17
open Pams Pams.Py Pams.Src Pams.Index

section Uninterpreted
variable {K : Type} [LinearOrder K] [NumOpsC K]

/-- **source = model for the index of two / three components** (`Src.index_src_value` at both functions and both sizes) -/
theorem source_index_is_model (p q : Nat → K) (s : Nat → Nat) (t : Int)
    (hz2 : (NumOpsC.ofInt ((0 : Int) + s 5 + s 6) : K) ≠ NumOpsC.ofInt 0)
    (hz3 : (NumOpsC.ofInt ((0 : Int) + s 5 + s 6 + s 7) : K) ≠ NumOpsC.ofInt 0) :
    result (rhoIndex p q s t) indexEnv FUEL "IndexMarket.compute_market_index" [.ref 9, .int (.atom 1)] (indexSt 2)
        = .num (indexValue [(p 5, s 5), (p 6, s 6)]) ∧
    result (rhoIndex p q s t) indexEnv FUEL "IndexMarket.compute_market_index" [.ref 9, .int (.atom 1)] (indexSt 3)
        = .num (indexValue [(p 5, s 5), (p 6, s 6), (p 7, s 7)]) ∧
    result (rhoIndex p q s t) indexEnv FUEL "IndexMarket.compute_fundamental_index" [.ref 9, .int (.atom 1)] (indexSt 2)
        = .num (indexValue [(q 5, s 5), (q 6, s 6)]) ∧
    result (rhoIndex p q s t) indexEnv FUEL "IndexMarket.compute_fundamental_index" [.ref 9, .int (.atom 1)] (indexSt 3)
        = .num (indexValue [(q 5, s 5), (q 6, s 6), (q 7, s 7)]) :=
  ⟨index_src_value p q s t false 2 (by simp) (by simpa [indexComps, totals] using hz2),
   index_src_value p q s t false 3 (by simp) (by simpa [indexComps, totals] using hz3),
   index_src_value p q s t true 2 (by simp) (by simpa [indexComps, totals] using hz2),
   index_src_value p q s t true 3 (by simp) (by simpa [indexComps, totals] using hz3)⟩

end Uninterpreted

section Field
variable {K : Type} [Field K] [LinearOrder K] [IsStrictOrderedRing K]

/-- the field operations as the operations the translated code uses -/
@[reducible] def indexFieldOps : NumOpsC K :=
  { add := (· + ·), sub := (· - ·), mul := (· * ·), div := (· / ·), neg := (- ·), ofInt := fun i => (i : K),
    floor := fun _ => 0, ceil := fun _ => 0, fmod := fun a _ => a, exp := id, log := id, sqrt := id }

/-- **what the current source computes for an index of two components is the share-weighted average of
their prices** `(p₅·s₅ + p₆·s₆) / (s₅ + s₆)` (exact arithmetic, shares not all zero). -/
theorem source_index_weighted_average (p q : Nat → K) (s : Nat → Nat) (t : Int) (hs : 0 < s 5 + s 6) :
    @result K (@pyNumOfOrder K _ indexFieldOps) (@rhoIndex K p q s t) (@indexEnv) FUEL
        "IndexMarket.compute_market_index" [.ref 9, .int (.atom 1)] (indexSt 2)
      = .num ((p 5 * (s 5 : K) + p 6 * (s 6 : K)) / ((s 5 : K) + (s 6 : K))) := by
  have hz : (@NumOpsC.ofInt K indexFieldOps ((0 : Int) + s 5 + s 6)) ≠ @NumOpsC.ofInt K indexFieldOps 0 := by
    show (((0 : Int) + s 5 + s 6 : Int) : K) ≠ ((0 : Int) : K)
    have : (0 : K) < ((s 5 + s 6 : Nat) : K) := by exact_mod_cast hs
    push_cast
    simp only [zero_add]
    push_cast at this
    exact ne_of_gt this
  refine (@index_src_value K _ indexFieldOps p q s t false 2 (by simp) (by simpa [indexComps, totals] using hz)).trans ?_
  congr 1
  show ((((0 : Int) : K) + p 5 * ((s 5 : Int) : K)) + p 6 * ((s 6 : Int) : K)) / (((0 + s 5 + s 6 : Nat) : Int) : K) = _
  push_cast
  simp only [zero_add]

end Field

/-- the component bookkeeping on the source: `is_all_markets_running` is the conjunction of the components'
running flags; `_add_market` appends a new component and refuses a repeated one or one without
outstanding shares -/
alias source_index_components := Pams.Src.index_src_components

end Pams.C17
