/-
Property statements about the **translated source** of the clock step (`Market._update_time` with
`OrderBook._set_time` / `_check_expired_orders`, as it stands in /repo; meaning given by
PamsModel/Py.lean), from `Src.tick_src` (source = model, by symbolic execution).
-/
import PamsLemmas.SrcTick
import PamsProps.SrcAccept

namespace Pams.C04
open Pams Pams.Py Pams.Src Pams.SrcAccept
variable {K : Type} [LinearOrder K] [NumOpsC K]

/-- **an order leaves the book exactly when the clock passes `acceptance time + time-to-live`** (current
source, one clock step 0 → 1 over the buy queue `[a, c]`): the queue afterwards holds exactly the
orders that are not expired at the new time (`Order.expired`: `placedAt + ttl < time`), in their order;
an order without time-to-live always stays; the expiry index keeps exactly the buckets of the orders
that stay. -/
theorem source_expiry_exact (m : Market K) (a c : Order K) (fund dflt pa pc mp fp : K)
    (hb : m.buys = [a, c]) (hs : m.sells = []) (ha : a.isBuy = true) (hpa : a.price = some pa)
    (hc : c.isBuy = true) (hpc : c.price = some pc) (ht : m.time = 0)
    (hmk : m.cur.market = some mp) (hf : m.cur.fund = some fp) (hac : a.id ≠ c.id)
    (hkeys : a.placedAt + a.ttl.getD 0 ≠ c.placedAt + c.ttl.getD 0) :
    let res := resultG tickObs (rhoTick m a c fund dflt) tickEnv XFUEL "Market._update_time" [.ref 5, .num (.atom 56)]
        (stTick a.ttl.isSome c.ttl.isSome m.cur.last.isSome m.cur.mid.isSome)
    cnth res 3 = .tuple ((if a.expired 1 then [] else [.ref 1]) ++ (if c.expired 1 then [] else [.ref 3])) := by
  intro res
  have hres : res = modelTickObs a c (m.tick (srcOps K) (some fund)) :=
    tick_src m a c fund dflt pa pc mp fp hb hs ha hpa hc hpc ht hmk hf hac hkeys
  rw [hres]
  simp only [cnth, modelTickObs, Market.tick, hb, ht, Book.keepAt, List.getD_cons_succ, List.getD_cons_zero]
  cases hea : a.expired 1 <;> cases hec : c.expired 1 <;> simp [List.filter, hea, hec, Ne.symm hac]

end Pams.C04

namespace Pams.C06
open Pams Pams.Py Pams.Src Pams.SrcAccept
variable {K : Type} [LinearOrder K] [NumOpsC K]

/-- **one clock step of the current source**: the market's clock and the clocks of both of its books
advance by exactly one, the new slot records the fundamental price handed in, and last-trade and mid
price are carried over into it. -/
theorem source_clock_step (m : Market K) (a c : Order K) (fund dflt pa pc mp fp : K)
    (hb : m.buys = [a, c]) (hs : m.sells = []) (ha : a.isBuy = true) (hpa : a.price = some pa)
    (hc : c.isBuy = true) (hpc : c.price = some pc) (ht : m.time = 0)
    (hmk : m.cur.market = some mp) (hf : m.cur.fund = some fp) (hac : a.id ≠ c.id)
    (hkeys : a.placedAt + a.ttl.getD 0 ≠ c.placedAt + c.ttl.getD 0) :
    let res := resultG tickObs (rhoTick m a c fund dflt) tickEnv XFUEL "Market._update_time" [.ref 5, .num (.atom 56)]
        (stTick a.ttl.isSome c.ttl.isSome m.cur.last.isSome m.cur.mid.isSome)
    cnth res 0 = .int (m.time + 1 : Nat) ∧ cnth res 1 = .int (m.time + 1 : Nat) ∧ cnth res 2 = .int (m.time + 1 : Nat) ∧
      cnth res 8 = .num fund ∧ cnth res 5 = cOpt m.cur.last ∧ cnth res 6 = cOpt m.cur.mid ∧
      cnth res 9 = .int 0 ∧ cnth res 10 = .int 0 ∧ cnth res 11 = .int 0 := by
  intro res
  have hres : res = modelTickObs a c (m.tick (srcOps K) (some fund)) :=
    tick_src m a c fund dflt pa pc mp fp hb hs ha hpa hc hpc ht hmk hf hac hkeys
  rw [hres]
  simp [cnth, modelTickObs, Market.tick, cOpt]

end Pams.C06

namespace Pams.C08
open Pams Pams.Py Pams.Src Pams.SrcAccept
variable {K : Type} [LinearOrder K] [NumOpsC K]

/-- **the market price at a clock step** (current source): while running it becomes the last trade
price if there is one, else the mid-quote if there is one, else it is carried over; while not running
it is carried over. -/
theorem source_tick_market_price (m : Market K) (a c : Order K) (fund dflt pa pc mp fp : K)
    (hb : m.buys = [a, c]) (hs : m.sells = []) (ha : a.isBuy = true) (hpa : a.price = some pa)
    (hc : c.isBuy = true) (hpc : c.price = some pc) (ht : m.time = 0)
    (hmk : m.cur.market = some mp) (hf : m.cur.fund = some fp) (hac : a.id ≠ c.id)
    (hkeys : a.placedAt + a.ttl.getD 0 ≠ c.placedAt + c.ttl.getD 0) :
    cnth (resultG tickObs (rhoTick m a c fund dflt) tickEnv XFUEL "Market._update_time" [.ref 5, .num (.atom 56)]
        (stTick a.ttl.isSome c.ttl.isSome m.cur.last.isSome m.cur.mid.isSome)) 7
      = cOpt (marketRule m.running m.cur.last m.cur.mid m.cur.market) := by
  rw [tick_src m a c fund dflt pa pc mp fp hb hs ha hpa hc hpc ht hmk hf hac hkeys]
  simp [cnth, modelTickObs, Market.tick]

end Pams.C08
