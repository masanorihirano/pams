/-
C06 at the level of the **translated source**: `Market._fill_until` as it stands in /repo
(PamsLemmas/SrcFill.lean, by symbolic execution).
-/
import PamsLemmas.SrcFill

namespace Pams.C06
open Pams Pams.Py Pams.Src
variable {K : Type} [LinearOrder K] [NumOpsC K]

/-- **storage is extended in chunks without touching filled slots** (current source): after
`_fill_until` has made room, every one of the eight per-step series still holds all the values it held
(market, mid, last-trade and fundamental prices, executed volume, turnover, buy and sell order counts),
followed by fresh slots with that series' own neutral value; when there is room already, nothing
changes. -/
theorem source_storage_growth_keeps_values (x : Nat → K) (n : Nat → Int) :
    resultG fillObs (rhoFill x n) env FUEL "Market._fill_until" [.ref 5, .int (.lit 2)] fillSt
      = .tuple [ .tuple [.num (x 10), .num (x 11), .none, .none], .tuple [.num (x 20), .num (x 21), .none, .none],
                 .tuple [.num (x 30), .num (x 31), .none, .none], .tuple [.num (x 40), .num (x 41), .none, .none],
                 .tuple [.int (n 50), .int (n 51), .int 0, .int 0], .tuple [.num (x 60), .num (x 61), .int 0, .int 0],
                 .tuple [.int (n 70), .int (n 71), .int 0, .int 0], .tuple [.int (n 80), .int (n 81), .int 0, .int 0] ] ∧
    resultG fillObs (rhoFill x n) env FUEL "Market._fill_until" [.ref 5, .int (.lit 1)] fillSt
      = .tuple [ .tuple [.num (x 10), .num (x 11)], .tuple [.num (x 20), .num (x 21)],
                 .tuple [.num (x 30), .num (x 31)], .tuple [.num (x 40), .num (x 41)],
                 .tuple [.int (n 50), .int (n 51)], .tuple [.num (x 60), .num (x 61)],
                 .tuple [.int (n 70), .int (n 71)], .tuple [.int (n 80), .int (n 81)] ] :=
  ⟨fill_src_grows x n, fill_src_noop x n⟩

end Pams.C06
