/-
C10 on the *current source text* of `pams/logs/base.py` (translated on every run into `PamsGen.Code`): the
logger's operations are the steps of the logger model `Pams.Logger`, whose theorems (C10.lean: every record
handed over is delivered exactly once, queued records in the order they were written, at the next flush)
thereby speak about this code.
-/
import PamsLemmas.SrcLogger

open Pams Pams.Py Pams.Logger Pams.Src

namespace Pams.C10
variable {K : Type} [LinearOrder K] [NumOpsC K]

/-- **`write`, `bulk_write` (and `Log.read_and_write`) only queue**: the record(s) are appended to the
pending queue, nothing is delivered -/
theorem source_logger_queues (ρ : Rho K) (d : List Nat) :
    resultG logObs ρ logEnv FUEL "Logger.write" [.ref 8, .ref 38] (logSt q3)
      = lstateObs (step { pending := q3, delivered := d } (.write 38)) d.length ∧
    resultG logObs ρ logEnv FUEL "Log.read_and_write" [.ref 38, .ref 8] (logSt q3)
      = lstateObs (step { pending := q3, delivered := d } (.write 38)) d.length ∧
    resultG logObs ρ logEnv FUEL "Logger.bulk_write" [.ref 8, .list [.ref 31, .ref 36]] (logSt q3)
      = lstateObs (step { pending := q3, delivered := d } (.bulkWrite [31, 36])) d.length :=
  ⟨logger_src ρ d ("Logger.write", [.ref 8, .ref 38], q3, [.write 38]) (by simp [logCalls]),
   logger_src ρ d ("Log.read_and_write", [.ref 38, .ref 8], q3, [.write 38]) (by simp [logCalls]),
   logger_src ρ d ("Logger.bulk_write", [.ref 8, .list [.ref 31, .ref 36]], q3, [.bulkWrite [31, 36]])
     (by simp [logCalls])⟩

/-- **synchronous delivery**: `write_and_direct_process` (and `Log.read_and_write_with_direct_process`,
`bulk_write_and_direct_process`) deliver at once, by the method of the record's class, and leave the queue
alone -/
theorem source_logger_direct (ρ : Rho K) (d : List Nat) :
    resultG logObs ρ logEnv FUEL "Logger.write_and_direct_process" [.ref 8, .ref 38] (logSt q3)
      = lstateObs (step { pending := q3, delivered := d } (.direct 38)) d.length ∧
    resultG logObs ρ logEnv FUEL "Log.read_and_write_with_direct_process" [.ref 39, .ref 8] (logSt q3)
      = lstateObs (step { pending := q3, delivered := d } (.direct 39)) d.length ∧
    resultG logObs ρ logEnv FUEL "Logger.bulk_write_and_direct_process" [.ref 8, .list [.ref 31, .ref 36]] (logSt q3)
      = lstateObs (step (step { pending := q3, delivered := d } (.direct 31)) (.direct 36)) d.length :=
  ⟨logger_src ρ d ("Logger.write_and_direct_process", [.ref 8, .ref 38], q3, [.direct 38]) (by simp [logCalls]),
   logger_src ρ d ("Log.read_and_write_with_direct_process", [.ref 39, .ref 8], q3, [.direct 39]) (by simp [logCalls]),
   logger_src ρ d ("Logger.bulk_write_and_direct_process", [.ref 8, .list [.ref 31, .ref 36]], q3, [.direct 31, .direct 36])
     (by simp [logCalls])⟩

/-- **a flush delivers every pending record exactly once, in queue order, and empties the queue** — for
a queue holding one record of each of the ten classes, each by the method of its class -/
theorem source_logger_flush (ρ : Rho K) (d : List Nat) :
    resultG logObs ρ logEnv FUEL "Logger._process" [.ref 8] (logSt q3)
      = lstateObs (step { pending := q3, delivered := d } .flush) d.length ∧
    resultG logObs ρ logEnv FUEL "Logger._process" [.ref 8] (logSt q10)
      = lstateObs (step { pending := q10, delivered := d } .flush) d.length ∧
    resultG logObs ρ logEnv FUEL "Logger._process" [.ref 8] (logSt [])
      = lstateObs (step { pending := [], delivered := d } .flush) d.length :=
  ⟨logger_src ρ d ("Logger._process", [.ref 8], q3, [.flush]) (by simp [logCalls]),
   logger_src ρ d ("Logger._process", [.ref 8], q10, [.flush]) (by simp [logCalls]),
   logger_src ρ d ("Logger._process", [.ref 8], [], [.flush]) (by simp [logCalls])⟩

end Pams.C10
