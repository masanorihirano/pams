/-
C07 — Reproducibility: configuration and seed determine the whole run.  PARTIAL (DESIGN §7).

What a theorem can carry: (i) at every place where the code could consult something other than
(configuration, seed) — the generated inventory `PamsGen.ambientSites`, re-extracted from /repo on
every run — the result is independent of it: each site is one of the modelled ones
(`sites_covered`, by `decide`, fails to compile when a new site appears), and the two sites that
iterate over a `set` are proved invariant under any iteration order; (ii) the seed plan: every
pseudo-random generator pams constructs is seeded by a draw of its parent generator
(`seed_plan`).  Independence from CPython's hash randomisation, global generator state and
earlier runs is a two-run property of the interpreter: it is observed by the differential runs
of the correspondence check, not proved.
-/
import PamsGen.AmbientSites
import PamsModel.Book
import Mathlib.Data.List.Sort
import Mathlib.Data.List.Dedup

namespace Pams.C07
open Pams

/-- the modelled sites -/
def allowed : List (String × String × String) :=
  [ -- iteration over a set of prices, then sorted: proved order-independent (`depth_keys_invariant`)
    ("pams/order_book.py", "OrderBook.get_price_volume", "set"),
    -- only the size of the set is used: proved order-independent (`set_size_invariant`)
    ("pams/agents/arbitrage_agent.py", "ArbitrageAgent._submit_orders", "set"),
    -- documented default when the caller passes no prng: outside the property's quantifier
    -- ("the seed of the random generator handed to the runner")
    ("pams/runners/base.py", "Runner.__init__", "unseeded-Random"),
    -- wall-clock timing printed by Runner.main to stdout, not part of the outcome
    ("pams/runners/base.py", "Runner.main", "clock") ]

/-- Every ambient-nondeterminism site found in the current sources is one of the modelled ones. -/
theorem sites_covered : ∀ s ∈ PamsGen.ambientSites, s ∈ allowed := by decide +kernel

/-- Seed plan: every generator constructed anywhere in pams is seeded by a draw from its parent's
generator (runner → simulator → fundamentals → numpy generator; runner → each market, agent,
session, event), so the runner's seed determines every stream and no component shares a stream. -/
theorem seed_plan : ∀ s ∈ PamsGen.seedSites, s.2.2 = "parent-draw" := by decide +kernel

variable {P : Type} [LinearOrder P]

theorem mergeSort_eq_of_perm {α : Type} (r : α → α → Prop) [DecidableRel r] [Std.Total r] [IsTrans α r]
    [Std.Antisymm r] {k₁ k₂ : List α} (h : k₁.Perm k₂) :
    k₁.mergeSort (r · ·) = k₂.mergeSort (r · ·) :=
  ((List.mergeSort_perm k₁ _).trans (h.trans (List.mergeSort_perm k₂ _).symm)).eq_of_pairwise'
    (List.pairwise_mergeSort' r k₁) (List.pairwise_mergeSort' r k₂)

/-- `get_price_volume`: the price keys are taken from a `set` (arbitrary iteration order) and then
sorted; the sorted result does not depend on that order. -/
theorem depth_keys_invariant (k₁ k₂ : List P) (h : k₁.Perm k₂) :
    k₁.mergeSort (fun a b => decide (a ≤ b)) = k₂.mergeSort (fun a b => decide (a ≤ b)) :=
  mergeSort_eq_of_perm (· ≤ ·) h

/-- the same for the descending order used on the buy side -/
theorem depth_keys_invariant_desc (k₁ k₂ : List P) (h : k₁.Perm k₂) :
    k₁.mergeSort (fun a b => decide (b ≤ a)) = k₂.mergeSort (fun a b => decide (b ≤ a)) :=
  mergeSort_eq_of_perm (· ≥ ·) h

/-- the per-key volume sums do not depend on the order in which the queue is traversed either -/
theorem depth_volume_invariant (q₁ q₂ : List (Order P)) (h : q₁.Perm q₂) (key : Option P) :
    ((q₁.filter (fun o => o.price = key)).map (·.vol)).sum =
    ((q₂.filter (fun o => o.price = key)).map (·.vol)).sum :=
  ((h.filter _).map _).sum_nat

/-- `ArbitrageAgent`: only the number of distinct outstanding-share values is used; it is the same
for every iteration order of the set (every permutation of the components) -/
theorem set_size_invariant (l₁ l₂ : List Nat) (h : l₁.Perm l₂) :
    l₁.dedup.length = l₂.dedup.length := (h.dedup).length_eq

theorem nonvacuous : PamsGen.ambientSites.length = 4 ∧ PamsGen.seedSites.length = 6 := by decide +kernel

end Pams.C07
