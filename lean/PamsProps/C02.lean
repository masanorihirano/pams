/-
C02 — Fills follow price-time priority; order comparison is a strict total order.
-/
import PamsLemmas.SrcOrder
import PamsLemmas.SourceTie
import PamsLemmas.MarketLemmas
import Mathlib.Data.Nat.Basic

namespace Pams.C02
open Pams
variable {P : Type} [LinearOrder P]

/-- (i-a) `__lt__` agrees with the documented ranking: market orders first, then better price
(higher bid, lower ask), then earlier acceptance time, then lower order id. -/
theorem lt_iff_rank (a b : Order P) : a.lt b = true ↔ ranksBefore a b := lt_iff_ranksBefore a b

/-- (i-b) `__lt__` is a strict total order on the accepted orders of one side. -/
theorem lt_strict_total (a b c : Order P) (hab : a.isBuy = b.isBuy) (hbc : b.isBuy = c.isBuy) :
    a.lt a = false ∧
    (a.lt b = true → b.lt a = false) ∧
    (a.lt b = true → b.lt c = true → a.lt c = true) ∧
    (a.id ≠ b.id → a.lt b = true ∨ b.lt a = true) :=
  ⟨olt_irrefl a, olt_asymm a b hab, olt_trans a b c hab, olt_total a b hab⟩

/-- (i-c) `__gt__` is the converse of `__lt__`; `__le__`/`__ge__` are the reflexive closures;
`__eq__` holds only between stamps of one order (equal ids). -/
theorem gt_le_ge_eq (a b : Order P) (hs : a.isBuy = b.isBuy) :
    a.gt b = b.lt a ∧ a.le b = (a.eqv b || a.lt b) ∧ a.ge b = (a.eqv b || b.lt a) ∧
    (a.eqv b = true → a.id = b.id) ∧ a.eqv a = true := by
  refine ⟨gt_eq_lt_swap a b hs, rfl, ?_, eqv_imp_id a b, eqv_refl a⟩
  unfold Order.ge
  rw [gt_eq_lt_swap a b hs]

/-- exactly one of `a < b`, `a == b`, `a > b` for two accepted orders of one side with the id
discipline of a market (equal id ⇒ same order) -/
theorem trichotomy (a b : Order P) (hs : a.isBuy = b.isBuy)
    (hid : a.id = b.id → a = b) :
    (a.lt b = true ∧ a.eqv b = false ∧ a.gt b = false) ∨
    (a.lt b = false ∧ a.eqv b = true ∧ a.gt b = false) ∨
    (a.lt b = false ∧ a.eqv b = false ∧ a.gt b = true) := by
  rw [gt_eq_lt_swap a b hs]
  by_cases h : a.id = b.id
  · have := hid h; subst this
    right; left
    exact ⟨olt_irrefl a, eqv_refl a, olt_irrefl a⟩
  · have hne : a.eqv b = false := by
      by_contra hc
      exact h (eqv_imp_id a b (by simpa using hc))
    rcases olt_total a b hs h with hl | hl
    · left; exact ⟨hl, hne, olt_asymm a b hs hl⟩
    · right; right; exact ⟨olt_asymm b a hs.symm hl, hne, hl⟩

/-- (ii) Within a matching round no order receives a fill while another order of the same side
with higher priority is left with unfilled volume: for every fill, no order still resting after
the round outranks the filled buy order, nor the filled sell order. -/
theorem priority_respected (ops : PriceOps P) (m m' : Market P) (fs : List (Fill P))
    (h : Inv m) (he : m.execution ops = .ok (m', fs)) :
    ∀ f ∈ fs,
      (∃ b ∈ m.buys, b.id = f.buyId ∧ ∀ y ∈ m'.buys, y.lt b = false) ∧
      (∃ s ∈ m.sells, s.id = f.sellId ∧ ∀ y ∈ m'.sells, y.lt s = false) := by
  intro f hf
  obtain ⟨price, -, rfl, pr, hpr, rfl⟩ := fill_of_execution he hf
  obtain ⟨⟨b, hb, hsb⟩, ⟨s, hs', hss⟩⟩ := walk_pairs_mem m.buys m.sells pr hpr
  refine ⟨⟨b, hb, hsb.id.symm, fun y hy => ?_⟩, ⟨s, hs', hss.id.symm, fun y hy => ?_⟩⟩
  · rw [← sameOrder_lt_right hsb y]
    exact walk_priority_buy m.buys m.sells h.buys.sorted h.buys.side pr hpr y hy
  · rw [← sameOrder_lt_right hss y]
    exact walk_priority_sell m.buys m.sells h.sells.sorted h.sells.side pr hpr y hy

/-- (iii) The content of a side determines the order in which the engine pops it: two sorted lists
with the same orders are equal, whatever the arrival order was. -/
theorem arrival_order_independent (side : Bool) (l₁ l₂ : List (Order P)) (hp : l₁.Perm l₂)
    (h₁ : Sorted l₁) (h₂ : Sorted l₂) (hs : ∀ x ∈ l₁, x.isBuy = side) : l₁ = l₂ :=
  sorted_perm_unique hp h₁ h₂ hs

/-- inserting the same stamped orders in two different sequences yields the same queue -/
theorem insert_order_independent {t n : Nat} (side : Bool) (a b : Order P) (l : List (Order P))
    (hl : SideInv side t n l) (ha : a.isBuy = side) (hb : b.isBuy = side)
    (hab : a.id ≠ b.id) (hal : ∀ x ∈ l, x.id ≠ a.id) (hbl : ∀ x ∈ l, x.id ≠ b.id) :
    Book.insert a (Book.insert b l) = Book.insert b (Book.insert a l) := by
  have sb := sorted_insert hl.sorted hl.side hb hbl
  have sa := sorted_insert hl.sorted hl.side ha hal
  have sideb : ∀ x ∈ Book.insert b l, x.isBuy = side := forall_mem_insert.mpr ⟨hb, hl.side⟩
  have sidea : ∀ x ∈ Book.insert a l, x.isBuy = side := forall_mem_insert.mpr ⟨ha, hl.side⟩
  have sab := sorted_insert sb sideb ha
    (forall_mem_insert.mpr ⟨fun e => hab e.symm, hal⟩)
  have sba := sorted_insert sa sidea hb (forall_mem_insert.mpr ⟨hab, hbl⟩)
  refine sorted_perm_unique ?_ sab sba (forall_mem_insert.mpr ⟨ha, sideb⟩)
  exact (insert_perm a _).trans ((List.Perm.cons a (insert_perm b l)).trans
    ((List.Perm.swap b a l).trans ((List.Perm.cons b (insert_perm a l).symm).trans
      (insert_perm b _).symm)))

def o1 : Order Nat := { id := 0, agent := 1, isBuy := true, price := some 100, vol := 1, placedAt := 0, ttl := none }
def o2 : Order Nat := { id := 1, agent := 1, isBuy := true, price := some 100, vol := 1, placedAt := 0, ttl := none }
def o3 : Order Nat := { id := 2, agent := 1, isBuy := true, price := none, vol := 1, placedAt := 3, ttl := none }
example : o1.lt o2 = true ∧ o3.lt o1 = true ∧ o2.lt o1 = false ∧ o1.gt o3 = true := by decide

/-- (T) `Order._gt_lt` in the current sources: for every `X if gt else Y` the operators are the ones
the model `gtLt` transcribes (earlier time / lower id first; higher bid, lower ask first; market
before limit) -/
theorem source_gt_lt :
    PamsGen.gtLtPairs =
      [("True", "False"), ("False", "True"), (">", "<"), (">", "<"), ("False", "True"),
       ("True", "False"), ("<", ">"), (">", "<")] := by decide


/-! ### (T2) the current source text of the comparison operators, by symbolic execution
(`PamsLemmas/SrcOrder.lean`: the translated `pams/order.py` run under the mini-Python semantics on
two accepted orders of one side) -/
section SourceCode
open Pams.Py Pams.Src
variable {K : Type} [LinearOrder K] [NumOpsC K]

/-- **running the source of `Order.__lt__` (the comparison `heapq` uses) on two accepted orders of
one side returns exactly "a ranks before b"**: market before limit, better price, earlier
acceptance, lower id -/
theorem code_lt_is_ranking (a b : Order K) (dflt : K) (x : Nat → Int) (y : Nat → Bool)
    (hs : a.isBuy = b.isBuy) :
    ∃ r, result (rho2 a b dflt x y) env FUEL "Order.__lt__" [.ref 1, .ref 2]
        (st2 a.price.isSome false b.price.isSome false) = .bool r ∧ (r = true ↔ ranksBefore a b) :=
  ⟨a.lt b, (cmp_src .lt a b dflt x y).trans (if_pos hs), lt_iff_rank a b⟩

/-- all six operators and `_gt_lt` of the source are the model's -/
theorem code_operators (a b : Order K) (gt : Bool) (dflt : K) (x : Nat → Int) (y : Nat → Bool)
    (hs : a.isBuy = b.isBuy) (hy : y 1 = gt) :
    let run := fun fn args => result (rho2 a b dflt x y) env FUEL fn args
        (st2 a.price.isSome false b.price.isSome false)
    run "Order._gt_lt" [.ref 1, .ref 2, .bool (.atom 1)] = .bool (gtLt gt a b) ∧
    run "Order.__lt__" [.ref 1, .ref 2] = .bool (a.lt b) ∧
    run "Order.__gt__" [.ref 1, .ref 2] = .bool (a.gt b) ∧
    run "Order.__eq__" [.ref 1, .ref 2] = .bool (a.eqv b) ∧
    run "Order.__le__" [.ref 1, .ref 2] = .bool (a.le b) ∧
    run "Order.__ge__" [.ref 1, .ref 2] = .bool (a.ge b) ∧
    run "Order.__ne__" [.ref 1, .ref 2] = .bool (!a.eqv b) :=
  have h (op : Cmp) := (cmp_src op a b dflt x y).trans (if_pos hs)
  ⟨hy ▸ h .gtLt, h .lt, h .gt, h .eq, h .le, h .ge, h .ne⟩

/-- comparing across sides raises -/
theorem code_other_side_raises (a b : Order K) (dflt : K) (x : Nat → Int) (y : Nat → Bool)
    (hs : a.isBuy ≠ b.isBuy) :
    result (rho2 a b dflt x y) env FUEL "Order._gt_lt" [.ref 1, .ref 2, .bool (.atom 1)]
      (st2 a.price.isSome false b.price.isSome false) = .err (.raise "ValueError") :=
  (cmp_src .gtLt a b dflt x y).trans (if_neg hs)

end SourceCode

end Pams.C02
