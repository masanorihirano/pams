/-
C15 — Price limit rule: accepted prices stay in the band; other markets untouched.
-/
import PamsLemmas.SourceTie
import PamsLemmas.SrcEvents
import PamsModel.Events
import PamsLemmas.FieldArith
import Mathlib.Tactic.Linarith
import Mathlib.Algebra.Order.Ring.Abs

namespace Pams.C15
open Pams Pams.Events

variable {K : Type} [Field K] [LinearOrder K] [IsStrictOrderedRing K]

theorem abs_eq (x : K) : Arith.abs x = |x| := by
  unfold Arith.abs
  split
  · exact (abs_of_neg ‹_›).symm
  · exact (abs_of_nonneg (not_lt.mp ‹_›)).symm

theorem max_eq (a b : K) : Arith.max a b = max a b := (max_def_lt a b).symm

theorem min_eq (a b : K) : Arith.min a b = min a b := (min_comm a b).trans (min_def_lt b a) |>.symm

theorem clip_eq (p0 r p : K) :
    clip p0 r p = if |p0 * r| ≤ |p - p0| then min (max p (p0 * (1 - r))) (p0 * (1 + r)) else p := by
  unfold clip
  rw [abs_eq, abs_eq, min_eq, max_eq]
  rfl

/-- for a positive reference price and a non-negative rate `clip` clamps into the band: the test on
the absolute changes only skips a clamp that would do nothing -/
theorem clip_eq_clamp {p0 r : K} (p : K) (hp0 : 0 < p0) (hr : 0 ≤ r) :
    clip p0 r p = min (max p (p0 * (1 - r))) (p0 * (1 + r)) := by
  rw [clip_eq]
  split
  · rfl
  · rename_i h
    rw [not_le, abs_of_nonneg (mul_nonneg hp0.le hr), abs_lt] at h
    rw [max_eq_left (by linarith), min_eq_left (by linarith)]

theorem band_le {p0 r : K} (hp0 : 0 < p0) (hr : 0 ≤ r) : p0 * (1 - r) ≤ p0 * (1 + r) :=
  mul_le_mul_of_nonneg_left (by linarith) hp0.le

/-- Every clipped price lies in the band `[p0 (1 - r), p0 (1 + r)]`. -/
theorem clip_in_band (p0 r p : K) (hp0 : 0 < p0) (hr : 0 ≤ r) :
    p0 * (1 - r) ≤ clip p0 r p ∧ clip p0 r p ≤ p0 * (1 + r) := by
  rw [clip_eq_clamp p hp0 hr]
  exact ⟨le_min (le_max_right _ _) (band_le hp0 hr), min_le_right _ _⟩

/-- A price already inside the band (edges included) passes unchanged. -/
theorem clip_id_inside (p0 r p : K) (hp0 : 0 < p0) (hr : 0 ≤ r)
    (h1 : p0 * (1 - r) ≤ p) (h2 : p ≤ p0 * (1 + r)) : clip p0 r p = p := by
  rw [clip_eq, max_eq_left h1, min_eq_left h2, ite_self]

/-- A price outside the band is moved to the nearer edge. -/
theorem clip_outside (p0 r p : K) (hp0 : 0 < p0) (hr : 0 ≤ r) :
    (p0 * (1 + r) < p → clip p0 r p = p0 * (1 + r)) ∧
    (p < p0 * (1 - r) → clip p0 r p = p0 * (1 - r)) := by
  have hband := band_le hp0 hr
  rw [clip_eq_clamp p hp0 hr]
  exact ⟨fun h => by rw [max_eq_left (hband.trans h.le), min_eq_right h.le],
    fun h => by rw [max_eq_right h.le, min_eq_left hband]⟩

/-- The hook: orders for markets that are not targets are accepted unchanged, market orders pass,
limit prices on target markets are clipped into the band. -/
theorem hook_spec (targets : List Nat) (p0 : Nat → K) (r : K) (market : Nat) (price : Option K) :
    (market ∉ targets → limitHook targets p0 r market price = price) ∧
    (limitHook targets p0 r market none = none) ∧
    (market ∈ targets → ∀ p, price = some p →
      limitHook targets p0 r market price = some (clip (p0 market) r p)) := by
  refine ⟨fun h => ?_, ?_, fun h p hp => ?_⟩
  · simp [limitHook, h]
  · unfold limitHook; split <;> rfl
  · simp [limitHook, h, hp]

/-- With tick rounding by less than one tick (C19) the accepted price, hence every trade price
(C01: a trade price is an accepted limit price of one of its parties), stays within the band
widened by one tick. -/
theorem accepted_within_widened_band (p0 r p tick q : K) (hp0 : 0 < p0) (hr : 0 ≤ r)
    (hsnap : clip p0 r p - tick < q ∧ q < clip p0 r p + tick) :
    p0 * (1 - r) - tick < q ∧ q < p0 * (1 + r) + tick := by
  have := clip_in_band p0 r p hp0 hr
  constructor <;> linarith [this.1, this.2, hsnap.1, hsnap.2]

theorem nonvacuous : clip (300 : ℚ) (1/20) 400 = 315 ∧ clip (300 : ℚ) (1/20) 100 = 285 ∧
    clip (300 : ℚ) (1/20) 310 = 310 ∧ clip (300 : ℚ) (1/20) 315 = 315 := by
  decide +kernel

/-- (T) `PriceLimitRule.get_limited_price` in the current sources: `>=` between the absolute changes -/
theorem source_clip_test :
    Pams.Source.opsOf "PriceLimitRule.get_limited_price" = ["not in", "is", ">="] := by decide +kernel


/-! ### (T2) the current source text of `PriceLimitRule`, by symbolic execution

`Pams.Src.*` (PamsLemmas/SrcEvents.lean) prove, for *uninterpreted* arithmetic on any linear order,
that running the translated source of `get_limited_price` / `hooked_before_order` returns the model's
`clip` / `limitHook`.  Here the arithmetic is instantiated with the field operations, so that the
theorems above apply to what the source computes. -/
section SourceCode
open Pams.Py

/-- the field operations as the operations the translated code uses (`floor` … are not used by this
event; they are given dummy values and nothing below mentions them) -/
@[reducible] def fieldOps : NumOpsC K :=
  { add := (· + ·), sub := (· - ·), mul := (· * ·), div := (· / ·), neg := (- ·), ofInt := fun i => (i : K),
    floor := fun _ => 0, ceil := fun _ => 0, fmod := fun a _ => a, exp := id, log := id, sqrt := id }

/-- `clip` read with the translated code's arithmetic is `clip` read with the field's -/
theorem clip_code_arith (p0 r p : K) :
    @clip K (@pyNumOfOrder K _ fieldOps).toArith p0 r p = clip p0 r p := by
  unfold clip Arith.abs Arith.max Arith.min
  have h0 : (@NumOpsC.ofInt K fieldOps 0) = 0 := Int.cast_zero
  have h1 : (@NumOpsC.ofInt K fieldOps 1) = 1 := Int.cast_one
  simp only [arith_zero_eq, arith_one_eq, h0, h1, arith_zero, arith_one]

/-- **the price the current source of `get_limited_price` returns for a limit order on a target
market lies in the band** -/
theorem code_limited_price_in_band (p r p0 : K) (x : Nat → Int) (y : Nat → Bool) (hp0 : 0 < p0) (hr : 0 ≤ r) :
    ∃ q : K, @result K (@pyNumOfOrder K _ fieldOps) (@Src.rhoClip K p r p0 x y) Src.evEnv Src.FUEL
        "PriceLimitRule.get_limited_price" [.ref 3, .ref 1, .ref 5] (Src.plrSt true) = .num q ∧
      p0 * (1 - r) ≤ q ∧ q ≤ p0 * (1 + r) ∧ (p0 * (1 - r) ≤ p → p ≤ p0 * (1 + r) → q = p) := by
  refine ⟨clip p0 r p, ?_, (clip_in_band p0 r p hp0 hr).1, (clip_in_band p0 r p hp0 hr).2, ?_⟩
  · rw [← clip_code_arith]
    exact @Src.get_limited_price_correct K _ fieldOps p r p0 x y
  · intro h1 h2
    exact clip_id_inside p0 r p hp0 hr h1 h2

end SourceCode

end Pams.C15
