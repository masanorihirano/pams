/-
C14 / C15 / C16 / C13 on the *current source text* of the built-in events' `hook_registration` and of
`EventHook.__init__` (translated on every run into `PamsGen.Code`): which occasions each event asks to be
called on.  Together with `C13.source_add_event_is_model` and `C13.source_dispatchers_are_model` this closes
the chain "event → hooks → buckets → dispatch" on the source.
-/
import PamsLemmas.SrcHookReg
import PamsLemmas.SrcEventSetup
import Batteries.Tactic.Alias

open Pams Pams.Py Pams.Src

namespace Pams.C14
/-- the fundamental price shock registers exactly `Events.fshockHook`: a before-step hook on its target market
instance for the times `trigger … trigger + length − 1` -/
alias source_shock_hooks := hookreg_src_fshock
/-- the order mistake shock registers one before-order hook for its trigger time (the same statement carries the
hooks of the two rules) -/
alias source_mistake_and_rule_hooks := hookreg_src_others
/-- `setup` of the two shocks: the trigger time is the session's start plus the configured `triggerTime`, the
target the market of the configured name, length / switch as configured or the defaults -/
alias source_shock_setup := setup_src_shocks
/-- refused: the obsolete `triggerDays`, a trigger time that is not an int, an unknown target market, an int
where the rate must be a float -/
alias source_setup_refusals := setup_src_refusals
end Pams.C14

namespace Pams.C15
/-- the price limit rule registers one before-order hook for every time -/
alias source_rule_hooks := hookreg_src_others
/-- `setup` of the rules: the target table holds exactly the named markets, the rate as configured -/
alias source_rule_setup := setup_src_rules
/-- the refused configurations, as `C14.source_setup_refusals` -/
alias source_setup_refusals := setup_src_refusals
end Pams.C15

namespace Pams.C16
/-- the trading halt rule registers one after-execution hook for every time and one before-step hook per
target market instance -/
alias source_rule_hooks := hookreg_src_others
/-- `setup`: the target table holds the named markets in the order listed, the halting length as configured -/
alias source_rule_setup := setup_src_rules
/-- the refused configurations, as `C14.source_setup_refusals` -/
alias source_setup_refusals := setup_src_refusals
end Pams.C16
