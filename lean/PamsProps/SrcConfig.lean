/-
C18 on the *current source text* of `pams/utils/json_extends.py` (translated on every run into
`PamsGen.Code`): `json_extends` is the model's `Config.jsonExtends`, whose theorems (C18.lean: every key
takes the value of the nearest ancestor that has it; excluded fields; cycles and missing parents refused;
the loop needs at most one pass per class) thereby speak about this code — on chains, cycles, missing
parents and exclusions, for every value the fields hold.  Likewise `JsonRandom.random` (pams/utils/json_random.py)
against the model's `Config.uniform`, and the registration of agents, markets and sessions
(`Simulator._add_agent` / `_add_market` / `_add_session`): ids and names stay unique.
-/
import PamsLemmas.SrcConfig
import PamsLemmas.SrcRegistry
import Batteries.Tactic.Alias

open Pams Pams.Py Pams.Config Pams.Src

namespace Pams.C18
variable {K : Type} [LinearOrder K] [NumOpsC K]

/-- **`json_extends` is the model's `jsonExtends`**: a three-class chain with overlapping keys (the result's
keys, their *order* and their values), exclusions, a target without parent, a leaf parent, and the three
refusals — mutual extension, a missing parent, a class extending itself -/
theorem source_json_extends_is_model :
    CfgSpec K wABC 13 tgt none ∧ CfgSpec K wABC 13 tgt (some [2, 4]) ∧ CfgSpec K wABC 13 [(1, 901), (3, 903)] none ∧
    CfgSpec K wABC 13 [(0, 12), (3, 903)] (some [3]) ∧ CfgSpec K wCyc 13 tgt (some []) ∧
    CfgSpec K wABC 13 [(1, 901), (0, 14)] none ∧ CfgSpec K wABC 10 tgt none := by
  have h := fun c hc => config_src (K := K) (cfg_agree c hc)
  simp only [cfgCases, List.forall_mem_cons, List.not_mem_nil, false_imp_iff, implies_true, and_true] at h
  exact h

/-- spelled out: `child = {w: t, extends: A, y: t'}` over `A = {extends: B, x, y}`, `B = {y, extends: C, z}`,
`C = {z, w, x}` gives the keys `z, w, x, y` in this order with `z` from B, `w` and `y` from the child itself,
`x` from A — nearest ancestor wins, the outermost ancestor's key order leads -/
theorem source_nearest_ancestor_example (val : Nat → Int) :
    resultG dictObs (rhoCfg (K := K) val) cfgEnv FUEL "json_extends" [wholeVal wABC, .str "child", objVal tgt, .none] cfgSt
      = .tuple [.tuple [.str "z", .str "w", .str "x", .str "y"],
                .tuple [.int (val 113), .int (val 904), .int (val 101), .int (val 902)]] :=
  -- the right-hand side is what `cfgObs val (jsonExtends wABC 13 tgt [])` evaluates to
  source_json_extends_is_model.1 val

/-- **`JsonRandom.random` on the current source**: a pair and `{"uniform": [a, b]}` give `u·(b − a) + a` with
exactly one `random()` draw (the model's `uniform`, whose range theorem is `C18.uniform_support`),
`{"const": [a]}` and a bare number give the number with no draw, `{"normal": [a, b]}` one `gauss(a, b)`,
`{"expon": [a]}` `a·(−log u)` with one draw — for all `a`, `b` and draws -/
alias source_json_random := json_random_src

/-- ill-formed specifications are refused before any draw -/
alias source_json_random_refusals := json_random_src_refusals

/-- **registration keeps ids and names unique**: `Simulator._add_agent` refuses an id or a name already in
use, otherwise appends, counts, indexes by id and name, files the agent as high-frequency iff its class
descends from `HighFrequencyAgent`, and adds it to its group — for every id value -/
alias source_registry_add_agent := registry_src_add_agent
/-- an agent name already in use is refused whatever the id -/
alias source_registry_duplicate_name := registry_src_duplicate_name

/-- `Simulator._add_market` refuses an id already in use; otherwise it appends, counts, indexes by id and name and
adds the market to its group (created if new) — for every id value -/
alias source_registry_add_market := registry_src_add_market
/-- a market name already in use, or a market object already registered, is refused whatever the id -/
alias source_registry_market_refusals := registry_src_market_refusals
/-- `_add_session`: the same checks; a new session is appended, counted and indexed by id and name -/
alias source_registry_add_session := registry_src_add_session

end Pams.C18
