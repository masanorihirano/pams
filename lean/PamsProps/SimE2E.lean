/-
End-to-end theorems: the properties of the matching engine, of the clocks and of the execution
gate, for the markets *inside* a whole simulation (`PamsModel/Sim.lean`: the scheduler model
driving the market model; agents' requests, permutations, draws, fundamental prices and what
event handlers do to the execution switches are universally quantified).

The bridge is `Sim.run_tracks`: whatever the scheduler does to market `k` during a run is a history
of market operations from the market's initial state, and the records written for `k` are that
history's records; `Sim.run_validOps`: the operations are valid when the submitted orders are.
Every history theorem of C01–C04, C06, C08 therefore applies to every market of every simulation.
-/
import PamsLemmas.SimLemmas
import PamsLemmas.SimTrace
import PamsLemmas.AccountLemmas
import PamsProps.C01
import PamsProps.C04
import PamsProps.C11
import PamsProps.C16

namespace Pams

variable {P : Type} [LinearOrder P]

open Pams.Sim Pams.Runner

namespace C06

/-- After `n` completed steps every market that is configured (once) has advanced by exactly `n`:
all markets share the runner's step counter.  (`n` is arbitrary, so this describes the clocks at
every step boundary of a session, not only at its end.) -/
theorem sim_steps_lockstep (po : Nat → PriceOps P) (ms : Markets) (cfg : SessionCfg) (t : Nat) (s : State P)
    (flag : Bool) (tapes : List (StepTape P)) (n : Nat) (k : Nat)
    (hok : (runSteps po ms cfg t s flag tapes n).out.ok = true) (hk : (ms.map (·.1)).count k = 1) :
    ((runSteps po ms cfg t s flag tapes n).st.mkt k).time = (s.mkt k).time + n := by
  rw [tracks_time ((tracks_glue po).runSteps (tracks_glueStep po _) (fun tp _ => tracks_glueStep po tp) n t s flag),
    runSteps_ticks k hok, hk, Nat.mul_one]

/-- At the end of a completed run every configured market's clock equals the total number of steps
of all sessions; an unconfigured id never moves. -/
theorem sim_clock (po : Nat → PriceOps P) (ms : Markets) (price : Nat → P) (fund0 : Nat → Option P)
    (cfgs : List SessionCfg) (tapes : List (List (StepTape P)))
    (hok : (run po ms price fund0 cfgs tapes).out.ok = true) (k : Nat) :
    ((run po ms price fund0 cfgs tapes).st.mkt k).time = totalSteps cfgs * (ms.map (·.1)).count k := by
  rw [tracks_time (s := initState po price fund0) (run_tracks po ms price fund0 cfgs tapes)]
  exact (Nat.zero_add _).trans (runSessions_ticks k hok)

end C06

namespace C03

/-- every market of every simulation satisfies the market invariant at the end of the run -/
theorem sim_inv (po : Nat → PriceOps P) (ms : Markets) (price : Nat → P) (fund0 : Nat → Option P)
    (cfgs : List SessionCfg) (tapes : List (List (StepTape P)))
    (hv : ∀ ts ∈ tapes, ∀ tp ∈ ts, tp.Valid) (k : Nat) :
    Inv ((run po ms price fund0 cfgs tapes).st.mkt k) :=
  tracks_inv (s := initState po price fund0) (run_tracks po ms price fund0 cfgs tapes)
    (run_validOps po ms price fund0 cfgs tapes hv) (fun _ => inv_init _ _ _) k

/-- … and in the middle of a step: after any batch of requests, from any state in which the
invariant holds -/
theorem sim_inv_batch (po : Nat → PriceOps P) (t : Nat) (s : State P) (flag : Bool) (qs : List (SReq P))
    (hq : ∀ q ∈ qs, ReqValid q) (hi : ∀ k, Inv (s.mkt k)) (k : Nat) :
    Inv ((processBatch po t s flag qs).st.mkt k) :=
  tracks_inv ((tracks_glue po).processBatch (fun q _ => processRequest_tracks po q t) s flag)
    (processBatch_validOps hq) hi k

/-- **the matching round of a simulation never raises on a running market**: the scheduler's call
of `_execution` after an accepted request succeeds whenever the request's market is running -/
theorem sim_round_never_raises (po : Nat → PriceOps P) (s : State P) (q : SReq P)
    (hi : Inv (s.mkt q.market)) (hrun : (s.mkt q.market).running = true) :
    ∃ r, roundCall po s q = some r := by
  obtain ⟨⟨m', fs⟩, he⟩ := execution_ok (po q.market) (s.mkt q.market) hi hrun
  unfold roundCall
  rw [he]
  exact ⟨_, rfl⟩

end C03

namespace C04

/-- **accounting identity for every order of every market of every simulation**: the volume
accepted under an id equals its fills plus the volume it currently has, computed from the records
the simulation wrote for that market -/
theorem sim_accounting (po : Nat → PriceOps P) (ms : Markets) (price : Nat → P) (fund0 : Nat → Option P)
    (cfgs : List SessionCfg) (tapes : List (List (StepTape P)))
    (hv : ∀ ts ∈ tapes, ∀ tp ∈ ts, tp.Valid) (k id : Nat) :
    accepted id (recsFor k (run po ms price fund0 cfgs tapes).recs) =
      filledIn id (recsFor k (run po ms price fund0 cfgs tapes).recs) +
        curVol ((run po ms price fund0 cfgs tapes).st.mkt k) id := by
  simpa only [run_tracks] using accounting_identity (po k) (price k) (fund0 k) _
    (opsFor_forall (run_validOps po ms price fund0 cfgs tapes hv) k) id

end C04

namespace C01

/-- where a fill record of a history comes from: a matching round on the state some prefix of the
history leads to -/
theorem fill_origin (ops : PriceOps P) (m : Market P) (os : List (Op P)) (f : Fill P)
    (hf : Rec.fill f ∈ (m.runOps ops os).2) :
    ∃ pre suf m' fs, os = pre ++ Op.exec :: suf ∧
      (m.runOps ops pre).1.execution ops = .ok (m', fs) ∧ f ∈ fs := by
  induction os generalizing m with
  | nil => simp [Market.runOps] at hf
  | cons o os ih =>
    unfold Market.runOps at hf
    simp only [List.mem_append] at hf
    rcases hf with hf | hf
    · -- the record was written by this very operation: it must be a round
      cases o with
      | exec =>
        rcases he : m.execution ops with e | ⟨m', fs⟩
        · rw [step_refused.2 e he] at hf
          cases hf
        · rw [step_exec_ok he] at hf
          obtain ⟨g, hg, hgf⟩ := List.mem_map.mp hf
          cases hgf
          exact ⟨[], os, m', fs, rfl, he, hg⟩
      | cancel id => rcases step_cancel ops m id with h | ⟨m', l, -, h⟩ <;> rw [h] at hf <;> simp at hf
      | _ => simp [Market.step] at hf
    · obtain ⟨pre, suf, m', fs, h1, h2, h3⟩ := ih (m.step ops o).1 hf
      exact ⟨o :: pre, suf, m', fs, by rw [h1]; rfl, h2, h3⟩

theorem sim_fill_origin (po : Nat → PriceOps P) (ms : Markets) (price : Nat → P) (fund0 : Nat → Option P)
    (cfgs : List SessionCfg) (tapes : List (List (StepTape P))) (k : Nat) (f : Fill P)
    (hf : Rec.fill f ∈ recsFor k (run po ms price fund0 cfgs tapes).recs) :
    ∃ pre suf m' fs, opsFor k (run po ms price fund0 cfgs tapes).ops = pre ++ Op.exec :: suf ∧
      ((Market.init (po k) (price k) (fund0 k)).runOps (po k) pre).1.execution (po k) = .ok (m', fs) ∧ f ∈ fs :=
  fill_origin (po k) _ _ f (by rw [run_tracks]; exact hf)

/-- **every fill written for any market in any simulation honours both limits**, and all fills of
its round carry one price: the fill belongs to a matching round on a state reachable by valid
market operations, so `C01.history` applies to it -/
theorem sim_fills_within_limits (po : Nat → PriceOps P) (ms : Markets) (price : Nat → P)
    (fund0 : Nat → Option P) (cfgs : List SessionCfg) (tapes : List (List (StepTape P)))
    (hv : ∀ ts ∈ tapes, ∀ tp ∈ ts, tp.Valid) (k : Nat) (f : Fill P)
    (hf : Rec.fill f ∈ recsFor k (run po ms price fund0 cfgs tapes).recs) :
    ∃ (pre : List (Op P)) (fs : List (Fill P)), f ∈ fs ∧ (∀ g ∈ fs, g.price = f.price) ∧
      ∃ b ∈ ((Market.init (po k) (price k) (fund0 k)).runOps (po k) pre).1.buys,
      ∃ s ∈ ((Market.init (po k) (price k) (fund0 k)).runOps (po k) pre).1.sells,
        b.id = f.buyId ∧ s.id = f.sellId ∧
        (∀ pb, b.price = some pb → f.price ≤ pb) ∧ (∀ ps, s.price = some ps → ps ≤ f.price) := by
  have hvo := opsFor_forall (run_validOps po ms price fund0 cfgs tapes hv) k
  obtain ⟨pre, suf, m', fs, hos, he, hmem⟩ := sim_fill_origin po ms price fund0 cfgs tapes k f hf
  have hvpre : ∀ o ∈ pre, o.valid := fun o ho => hvo o (by rw [hos]; simp [ho])
  obtain ⟨h1, h2⟩ := history (po k) (price k) (fund0 k) pre hvpre m' fs he
  obtain ⟨b, hb, s, hs, hrest⟩ := h2 f hmem
  exact ⟨pre, fs, hmem, fun g hg => h1 g hg f hmem, b, hb, s, hs, hrest⟩

end C01

namespace C09

/-- no fill record without a matching round: the records written for a market are those of the history
of its operations, and a fill record of a history comes from an `exec` -/
theorem no_fill_of_no_exec {po : Nat → PriceOps P} {s : State P} {a : SOut P} (h : a.Tracks po s)
    (hx : ∀ x ∈ a.ops, x.2 ≠ Op.exec) : ∀ x ∈ a.recs, ∀ f, x.2 ≠ Rec.fill f := by
  intro x hxr f hf
  have hmem : Rec.fill f ∈ recsFor x.1 a.recs :=
    hf ▸ List.mem_map.mpr ⟨x, List.mem_filter.mpr ⟨hxr, decide_eq_true rfl⟩, rfl⟩
  obtain ⟨pre, suf, -, -, hos, -, -⟩ :=
    C01.fill_origin (po x.1) (s.mkt x.1) (opsFor x.1 a.ops) f (by rw [h x.1]; exact hmem)
  exact opsFor_forall (p := (· ≠ Op.exec)) hx x.1 Op.exec (by rw [hos]; simp) rfl

/-- **No trade in a session without order execution**: whatever agents submit in a session
configured with `withOrderExecution = false`, as long as no handler switches execution on, no fill
is written for any market, no matching round is run and the session flag is still off at the end. -/
theorem sim_session_without_execution (po : Nat → PriceOps P) (ms : Markets) (k : Nat) (cfg : SessionCfg)
    (start : Nat) (s : State P) (tapes : List (StepTape P)) (hx : cfg.execution = false)
    (hr : ∀ tp ∈ tapes, tp.NoResume) :
    (∀ x ∈ (runSession po ms k cfg start s tapes).recs, ∀ f, x.2 ≠ Rec.fill f) ∧
    (∀ x ∈ (runSession po ms k cfg start s tapes).ops, x.2 ≠ Op.exec) ∧
    (runSession po ms k cfg start s tapes).out.flag = false := by
  have h := runSession_quiet po ms k cfg start s tapes hx hr
  exact ⟨no_fill_of_no_exec ((tracks_glue po).runSession (fun s _ => Tracks.setRunnings po s.mkt _)
    (tracks_glueStep po _) (fun tp _ => tracks_glueStep po tp) s false) h.2, h.2, h.1⟩

/-- … and hence every order of every market keeps its whole volume through such a session: the
filled volume computed from the session's records is zero -/
theorem sim_session_without_execution_filled (po : Nat → PriceOps P) (ms : Markets) (k : Nat)
    (cfg : SessionCfg) (start : Nat) (s : State P) (tapes : List (StepTape P)) (hx : cfg.execution = false)
    (hr : ∀ tp ∈ tapes, tp.NoResume) (mk id : Nat) :
    filledIn id (recsFor mk (runSession po ms k cfg start s tapes).recs) = 0 :=
  filledIn_of_no_fill id _ fun r hr' => by
    obtain ⟨x, hx', rfl⟩ := List.mem_map.mp hr'
    exact (sim_session_without_execution po ms k cfg start s tapes hx hr).1 x (List.mem_filter.mp hx').1

end C09

namespace C16

/-- **Every fill of every simulation was produced while its market was running**: the fill belongs
to a matching round on a state, reachable by the market operations of some prefix of the run, in
which `running = true`.  A halted market therefore records no fill until it is switched on again. -/
theorem sim_fills_only_while_running (po : Nat → PriceOps P) (ms : Markets) (price : Nat → P)
    (fund0 : Nat → Option P) (cfgs : List SessionCfg) (tapes : List (List (StepTape P)))
    (k : Nat) (f : Fill P) (hf : Rec.fill f ∈ recsFor k (Sim.run po ms price fund0 cfgs tapes).recs) :
    ∃ pre suf, opsFor k (Sim.run po ms price fund0 cfgs tapes).ops = pre ++ Op.exec :: suf ∧
      ((Market.init (po k) (price k) (fund0 k)).runOps (po k) pre).1.running = true := by
  obtain ⟨pre, suf, m', fs, hos, he, hmem⟩ := C01.sim_fill_origin po ms price fund0 cfgs tapes k f hf
  exact ⟨pre, suf, hos, fills_only_running (po k) _ m' fs he (List.ne_nil_of_mem hmem)⟩

end C16

namespace C11

omit [LinearOrder P] in
theorem rfills_parties (q : SReq P) (base i : Nat) (fs : List (Fill P)) :
    (rfills q base i fs).map (fun r => (r.buyer, r.seller)) = fs.map (fun f => (f.buyAgent, f.sellAgent)) := by
  induction fs generalizing i with
  | nil => rfl
  | cons f fs ih => simp [rfills, ih (i + 1)]

/-- In the closed loop, a request accepted while execution is on is followed by exactly one round on
its market; the ledger event of that round lists one reference per fill the matching engine
produced, in order (fresh consecutive numbers), and the agents notified are, fill by fill, the
buyer and the seller the engine paired — the scheduler adds and drops nobody. -/
theorem sim_round_parties (po : Nat → PriceOps P) (t : Nat) (s s1 : State P) (q : SReq P)
    (r1 : List (MRec P)) (o1 : List (MOp P)) (m' : Market P) (fs : List (Fill P))
    (hm : marketCall po s q = some (s1, r1, o1))
    (he : (s1.mkt q.market).execution (po q.market) = .ok (m', fs)) :
    ∃ rf : List RFill,
      callbacks (Sim.processRequest po t s true q).out.tr =
        (if q.isCancel then [Ev.cbCanceled q.owner q.ref] else [Ev.cbSubmitted q.owner q.ref]) ++ fillCallbacks rf ∧
      rf.map (fun r => (r.buyer, r.seller)) = fs.map (fun f => (f.buyAgent, f.sellAgent)) ∧
      rf.map (·.ref) = (List.range fs.length).map (fun j => s1.nfill + j) ∧
      (Sim.processRequest po t s true q).recs = r1 ++ fs.map (fun f => (q.market, Rec.fill f)) := by
  refine ⟨rfills q s1.nfill 0 fs, ?_, rfills_parties q s1.nfill 0 fs, ?_, ?_⟩
  · unfold Sim.processRequest
    simp only
    rw [request_callbacks]
    unfold resolve roundCall
    simp [hm, he, baseRequest]
  · simp [rfills_refs, List.range'_eq_map_range]
  · unfold Sim.processRequest resolve roundCall
    simp [hm, he]

end C11

namespace C05

/-- **Every fill of a simulation is applied to the ledger exactly once.**  The fills of a run are
numbered `0 … N−1` in the order the matching engine produced them (`N` = number of fill records the
markets wrote); the ledger updates of the whole run, concatenated, list exactly `0, 1, …, N−1`: no
fill is skipped, none is applied twice, none is applied out of order. -/
theorem sim_every_fill_applied_once (po : Nat → PriceOps P) (ms : Markets) (price : Nat → P)
    (fund0 : Nat → Option P) (cfgs : List SessionCfg) (tapes : List (List (StepTape P))) :
    ledgerRefs (Sim.run po ms price fund0 cfgs tapes).out.tr =
      List.range (countFills (Sim.run po ms price fund0 cfgs tapes).recs) :=
  (run_numbered po ms price fund0 cfgs tapes).2.1

theorem sim_ledger_refs_nodup (po : Nat → PriceOps P) (ms : Markets) (price : Nat → P)
    (fund0 : Nat → Option P) (cfgs : List SessionCfg) (tapes : List (List (StepTape P))) :
    (ledgerRefs (Sim.run po ms price fund0 cfgs tapes).out.tr).Nodup := by
  rw [sim_every_fill_applied_once]
  exact List.nodup_range

end C05

namespace C11

/-- **Every fill of a simulation is notified exactly twice** (to its buyer and to its seller; twice
to the same agent for a self-trade), in fill order, over the whole run. -/
theorem sim_every_fill_notified_twice (po : Nat → PriceOps P) (ms : Markets) (price : Nat → P)
    (fund0 : Nat → Option P) (cfgs : List SessionCfg) (tapes : List (List (StepTape P))) :
    cbRefs (Sim.run po ms price fund0 cfgs tapes).out.tr =
      dup (List.range (countFills (Sim.run po ms price fund0 cfgs tapes).recs)) :=
  (run_numbered po ms price fund0 cfgs tapes).2.2

end C11

namespace C13

/-- **Over a whole simulation every order, cancel and fill occurrence triggers exactly one dispatch
of its kind, in order**: the before-order dispatches carry the same sequence of order references as the
`_add_order` calls, the before-cancel dispatches as the `_cancel_order` calls, the after-order /
after-cancel dispatches as the owners' notifications (i.e. the accepted ones), and the
after-execution dispatches carry exactly the fills `0 … N−1` the ledger was updated with. -/
theorem sim_hooks_paired (po : Nat → PriceOps P) (ms : Markets) (price : Nat → P)
    (fund0 : Nat → Option P) (cfgs : List SessionCfg) (tapes : List (List (StepTape P))) :
    let tr := (Sim.run po ms price fund0 cfgs tapes).out.tr
    tr.flatMap hookOrderBeforeRef = tr.flatMap addRef ∧
    tr.flatMap hookCancelBeforeRef = tr.flatMap cancelRef ∧
    tr.flatMap hookOrderAfterRef = tr.flatMap cbSubmittedRef ∧
    tr.flatMap hookCancelAfterRef = tr.flatMap cbCanceledRef ∧
    tr.flatMap hookExecRef = tr.flatMap ledgerRef :=
  run_paired po ms price fund0 cfgs tapes

/-- the after-execution dispatches of a run name every fill exactly once -/
theorem sim_exec_hook_once_per_fill (po : Nat → PriceOps P) (ms : Markets) (price : Nat → P)
    (fund0 : Nat → Option P) (cfgs : List SessionCfg) (tapes : List (List (StepTape P))) :
    (Sim.run po ms price fund0 cfgs tapes).out.tr.flatMap hookExecRef =
      List.range (countFills (Sim.run po ms price fund0 cfgs tapes).recs) := by
  rw [(sim_hooks_paired po ms price fund0 cfgs tapes).2.2.2.2, ← ledgerRefs_eq]
  exact C05.sim_every_fill_applied_once po ms price fund0 cfgs tapes

end C13

namespace C10

/-- **One record per event over a whole run**: the order records written equal in number the
accepted submissions (each notified to its owner), the cancel records the accepted cancellations,
and the fill records the fills applied to the ledger. -/
theorem sim_one_record_per_event (po : Nat → PriceOps P) (ms : Markets) (price : Nat → P)
    (fund0 : Nat → Option P) (cfgs : List SessionCfg) (tapes : List (List (StepTape P))) :
    nOrders (Sim.run po ms price fund0 cfgs tapes).recs =
      ((Sim.run po ms price fund0 cfgs tapes).out.tr.flatMap cbSubmittedRef).length ∧
    nCancels (Sim.run po ms price fund0 cfgs tapes).recs =
      ((Sim.run po ms price fund0 cfgs tapes).out.tr.flatMap cbCanceledRef).length ∧
    countFills (Sim.run po ms price fund0 cfgs tapes).recs =
      (ledgerRefs (Sim.run po ms price fund0 cfgs tapes).out.tr).length := by
  have h := run_logged po ms price fund0 cfgs tapes
  refine ⟨h.1, h.2, ?_⟩
  rw [C05.sim_every_fill_applied_once]
  simp

end C10

namespace SimDemo

def po : Nat → PriceOps Nat := fun _ => C01.natOps

def sell : SReq Nat :=
  { owner := 1
    market := 0
    isCancel := false
    ref := 0
    marketOk := true
    stamped := false
    req := { agent := 1, isBuy := false, price := some 100, vol := 2, ttl := none }
    cancelId := 0
    fx := fun _ => Fx.none }

def buy : SReq Nat :=
  { owner := 2
    market := 0
    isCancel := false
    ref := 1
    marketOk := true
    stamped := false
    req := { agent := 2, isBuy := true, price := some 101, vol := 1, ttl := none }
    cancelId := 0
    fx := fun _ => Fx.none }

def tape : Sim.StepTape Nat :=
  { resume := fun _ => StepFx.none, perm := [1, 2],
    answer := fun a => if a = 1 then [sell] else if a = 2 then [buy] else [],
    shuffle := [0, 1], rounds := [], fund := fun _ => some 100 }

def cfg : SessionCfg := { steps := 1, placement := true, execution := true, maxNormal := 5, maxHft := 0 }

def result : SOut Nat := Sim.run po [(0, false)] (fun _ => 100) (fun _ => some 100) [cfg] [[tape]]

def fillsOf (l : List (MRec Nat)) : List (Nat × Nat × Nat × Nat) :=
  l.filterMap (fun x => match x.2 with
    | .fill f => some (x.1, f.price, f.buyAgent, f.sellAgent)
    | _ => none)

/-- the demo run completes, one fill is written (market 0, at the resting sell order's price 100,
buyer 2, seller 1), the ledger lists fill 0 once and the two parties are notified -/
theorem nonvacuous :
    result.out.ok = true ∧ countFills result.recs = 1 ∧ ledgerRefs result.out.tr = [0] ∧
    cbRefs result.out.tr = [0, 0] ∧ (result.st.mkt 0).time = 1 ∧
    fillsOf result.recs = [(0, 100, 2, 1)] :=
  ⟨by decide +kernel, by decide +kernel, by decide +kernel, by decide +kernel, by decide +kernel,
   by decide +kernel⟩

end SimDemo

end Pams
