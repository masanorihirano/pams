/-
C03 — A matching round clears every executable pair and never fails.
-/
import PamsLemmas.SourceTie
import PamsLemmas.MarketLemmas
import Mathlib.Data.Nat.Basic

namespace Pams.C03
open Pams
variable {P : Type} [LinearOrder P]

/-- The round never fails: on every state satisfying the market invariant (hence on every book
reachable through valid submissions, cancellations, expiries and rounds, `reachable_inv`), a
matching round of a running market returns normally — none of the `AssertionError`s of
`_execution` / `_execute_orders` (`price is None`, zero or negative volume, equal ids,
post-condition) is reachable. -/
theorem never_fails (ops : PriceOps P) (m : Market P) (h : Inv m) (hrun : m.running = true) :
    ∃ m' fs, m.execution ops = .ok (m', fs) := by
  obtain ⟨⟨m', fs⟩, hr⟩ := execution_ok ops m h hrun
  exact ⟨m', fs, hr⟩

theorem reachable_inv (ops : PriceOps P) (mp : P) (fund : Option P) (os : List (Op P))
    (hv : ∀ o ∈ os, o.valid) : Inv ((Market.init ops mp fund).runOps ops os).1 :=
  inv_runOps ops _ os (inv_init ops mp fund) hv

/-- the round never fails along any history, including crossed books built up while matching was
off and books holding market orders on one or both sides -/
theorem never_fails_history (ops : PriceOps P) (mp : P) (fund : Option P) (os : List (Op P))
    (hv : ∀ o ∈ os, o.valid)
    (hrun : ((Market.init ops mp fund).runOps ops os).1.running = true) :
    ∃ m' fs, ((Market.init ops mp fund).runOps ops os).1.execution ops = .ok (m', fs) :=
  never_fails ops _ (reachable_inv ops mp fund os hv) hrun

/-- After a round nothing executable remains (`remain_executable_orders()` is false). -/
theorem post_not_executable (ops : PriceOps P) (m m' : Market P) (fs : List (Fill P))
    (he : m.execution ops = .ok (m', fs)) : remainExecutable m'.buys m'.sells = false := by
  rcases execution_eq_ok.mp he with ⟨hne, e⟩ | ⟨-, price, -, e, -⟩ <;> cases e
  · exact hne
  · exact walk_resid_not_executable m.buys m.sells

/-- Immediately after a round, if both sides are non-empty and at least one of the two best orders
is a limit order, then both are limit orders and the best bid is strictly below the best ask. -/
theorem post_top_uncrossed (ops : PriceOps P) (m m' : Market P) (fs : List (Fill P))
    (he : m.execution ops = .ok (m', fs)) (b s : Order P) (bs ss : List (Order P))
    (hb : m'.buys = b :: bs) (hs : m'.sells = s :: ss)
    (hlim : b.price ≠ none ∨ s.price ≠ none) :
    ∃ pb ps, b.price = some pb ∧ s.price = some ps ∧ pb < ps := by
  have h := post_not_executable ops m m' fs he
  rw [hb, hs, remainExecutable_of_limit bs ss hlim, Bool.not_eq_false'] at h
  exact noCross_iff.mp h

/-! Non-vacuity: market orders on both sides with unequal volumes and limit levels behind them. -/
def natOps : PriceOps Nat := { mid := fun a b => (a + b) / 2, addNotional := fun acc v p => acc + v * p, zero := 0, snap := fun _ p => p }

def demo : Market Nat :=
  ((Market.init natOps 100 none).runOps natOps
    [.setRunning false,
     .add { agent := 1, isBuy := false, price := none, vol := 2, ttl := none },
     .add { agent := 2, isBuy := false, price := some 101, vol := 1, ttl := none },
     .add { agent := 3, isBuy := true, price := none, vol := 3, ttl := none },
     .add { agent := 4, isBuy := true, price := some 99, vol := 3, ttl := none },
     .setRunning true]).1

example : remainExecutable demo.buys demo.sells = true := by decide +kernel
example : (match demo.execution natOps with
    | .ok (m', fs) => (fs.map (fun f => (f.buyId, f.sellId, f.price, f.vol)), m'.buys.map (·.id), m'.sells.map (·.id))
    | .error _ => ([], [], [])) = ([(2, 0, 101, 2), (2, 1, 101, 1)], [3], []) := by decide +kernel

/-- (T) `Market.remain_executable_orders` in the current sources carries the operators of the model
`remainExecutable` (`<=` cross test, `!=`/`<` on the market volumes, `>=` level tests, `<=`) -/
theorem source_executable_predicate :
    Pams.Source.opsOf "Market.remain_executable_orders" =
      ["==", "==", "is not", "is not", "is not", "is not", "<=", "not in", "not in", "!=", "<", ">=", ">=",
       "==", "==", "<="] := by decide

end Pams.C03
