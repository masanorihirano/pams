/-
The scheduler properties on the *current source text* of `pams/runners/sequential.py` (translated on
every run into `PamsGen.Code`): `_run`, `_iterate_market_updates`, `_update_markets`,
`_collect_orders_from_normal_agents` and `_handle_orders` do to their world — markets, agents, hook
dispatch, ledger, logs, clocks, all extern — exactly what the scheduler model `Pams.Runner` says, for
every value of the sessions' switches, rates, caps and of every random draw, on the shapes of
PamsLemmas/SrcRunner*.lean.  The theorems of C05 / C06 / C09 / C10 / C11 / C13 / C16 about the model
(every tape, every length) thereby speak about this code on these shapes; beyond the shapes the tie is
the correspondence check (Driver/Runner.lean against recorded runs).
-/
import PamsLemmas.SrcRunnerRun

open Pams Pams.Py Pams.Runner Pams.Src
variable {K : Type} [LinearOrder K] [NumOpsC K]

namespace Pams.C09

/-- **`_handle_orders` is the model's `handle`** (placement on): order and cancel requests, rounds gated
by the execution switch as it stands *then* (a hook may have switched it off after an earlier fill),
one high-frequency round after each normal batch unless `rate < random()`, high-frequency agents
consulted in the sampled order until the cap is reached, owner check, each non-empty answer handled at
once. -/
theorem source_handle_orders_is_model :
    HandleSpec K shA ∧ HandleSpec K shB ∧ HandleSpec K shC ∧ HandleSpec K shD ∧ HandleSpec K shE ∧
    HandleSpec K shF ∧ HandleSpec K shG :=
  ⟨handle_src_A, handle_src_B, handle_src_C, handle_src_D, handle_src_E, handle_src_F, handle_src_G⟩

/-- **`_collect_orders_from_normal_agents` is the model's `collect`**: agents consulted in the sampled
order while fewer than `max_normal_orders` non-empty answers were collected; an answer counts once however
many requests it holds; an answer in another agent's name ends the run -/
theorem source_collect_is_model : CollectSpec K cA ∧ CollectSpec K cB ∧ CollectSpec K cC :=
  ⟨collect_src_A, collect_src_B, collect_src_C⟩

/-- with `with_order_placement` off nothing is accepted: a request handed to `_handle_orders`, or a
non-empty answer to `_collect_orders_from_normal_agents`, raises before any market is touched -/
theorem source_placement_gate (flag : Bool) (rate : K) (draw : Nat → K) (capH capN : Int) (hc : 0 < capN) :
    resultG runnerObs (rhoRun false flag rate draw capH capN) (rEnv shA) FUEL "SequentialRunner._handle_orders"
        [.ref 1, .ref 4, .list (shA.batches.map refs)] (rSt shA) = .err (.raise "AssertionError") ∧
    resultG collectObs (rhoRun false flag rate draw capH capN) (rEnv cA) FUEL
        "SequentialRunner._collect_orders_from_normal_agents" [.ref 1, .ref 4] (rSt cA)
      = .err (.raise "AssertionError") :=
  ⟨handle_src_placement_off flag rate draw capH capN, collect_src_placement_off flag rate draw capH capN hc⟩

/-- spelled out (shape F, execution off, both rounds go ahead, cap 1): the sampled order of the batches
(the cancel first), after each batch exactly one high-frequency agent — the first of the sampled order —
is consulted and its order placed; no round runs -/
theorem source_hft_interleaving (rate : K) (draw : Nat → K) (capN : Int)
    (h0 : ¬ rate < draw 0) (h1 : ¬ rate < draw 1) :
    resultG runnerObs (rhoRun true false rate draw 1 capN) (rEnv shF) FUEL "SequentialRunner._handle_orders"
        [.ref 1, .ref 4, .list (shF.batches.map refs)] (rSt shF)
      = .tuple [.tuple [
          cCall "_trigger_event_before_cancel" (.ref 3) [.ref 11], cCall "_cancel_order" (.ref 6) [.ref 11],
          cCall "canceled_order" (.ref 22) [.ref 111], cCall "_trigger_event_after_cancel" (.ref 3) [.ref 111],
          cCall "submit_orders" (.ref 24) [mkts],
          cCall "_trigger_event_before_order" (.ref 3) [.ref 13], cCall "_add_order" (.ref 6) [.ref 13],
          cCall "submitted_order" (.ref 24) [.ref 113], cCall "_trigger_event_after_order" (.ref 3) [.ref 113],
          cCall "_trigger_event_before_order" (.ref 3) [.ref 10], cCall "_add_order" (.ref 5) [.ref 10],
          cCall "submitted_order" (.ref 21) [.ref 110], cCall "_trigger_event_after_order" (.ref 3) [.ref 110],
          cCall "submit_orders" (.ref 24) [mkts],
          cCall "_trigger_event_before_order" (.ref 3) [.ref 13], cCall "_add_order" (.ref 6) [.ref 13],
          cCall "submitted_order" (.ref 24) [.ref 113], cCall "_trigger_event_after_order" (.ref 3) [.ref 113]],
        .bool false] := by
  rw [handle_src_F]
  simp [outObs, RShape.model, RShape.rounds, RShape.requests, RShape.request, shF, handle, processBatch,
    processRequest, Out.andThen, hftRound, evCalls, traceCalls, cCall, mkts, mktAddr, agentAddr, logAddr, h0, h1]

end Pams.C09

namespace Pams.C16

/-- spelled out (shape C, execution on, the round goes ahead, cap 1): the fill of the first order makes
a hook halt trading; the high-frequency order placed afterwards is accepted and its owner told, but
**no matching round runs** for it, although it would have been filled — and the switch stays off -/
theorem source_no_round_after_halt (rate : K) (draw : Nat → K) (capN : Int) (h0 : ¬ rate < draw 0) :
    resultG runnerObs (rhoRun true true rate draw 1 capN) (rEnv shC) FUEL "SequentialRunner._handle_orders"
        [.ref 1, .ref 4, .list (shC.batches.map refs)] (rSt shC)
      = .tuple [.tuple [
          cCall "_trigger_event_before_order" (.ref 3) [.ref 10], cCall "_add_order" (.ref 5) [.ref 10],
          cCall "submitted_order" (.ref 21) [.ref 110], cCall "_trigger_event_after_order" (.ref 3) [.ref 110],
          cCall "_execution" (.ref 5) [], cCall "_update_agents_for_execution" (.ref 3) [.tuple [.ref 30]],
          cCall "executed_order" (.ref 21) [.ref 30], cCall "executed_order" (.ref 22) [.ref 30],
          cCall "_trigger_event_after_execution" (.ref 3) [.ref 30],
          cCall "submit_orders" (.ref 23) [mkts],
          cCall "_trigger_event_before_order" (.ref 3) [.ref 12], cCall "_add_order" (.ref 5) [.ref 12],
          cCall "submitted_order" (.ref 23) [.ref 112], cCall "_trigger_event_after_order" (.ref 3) [.ref 112]],
        .bool false] := by
  rw [handle_src_C]
  simp [outObs, RShape.model, RShape.rounds, RShape.requests, RShape.request, shC, handle, processBatch,
    processRequest, Out.andThen, hftRound, fillEvents, flagAfterFills, evCalls, traceCalls, cCall, mkts, mktAddr,
    agentAddr, logAddr, h0]

end Pams.C16

namespace Pams.C05

/-- spelled out (shape D, execution on): a round with two fills — **the ledger is updated once, with
both fills, before any party is told**; then buyer, seller, hook for the first fill, buyer, seller, hook
for the second (the halt the first one triggers does not cut the notifications short) -/
theorem source_ledger_once_before_notifications (rate : K) (draw : Nat → K) (capH capN : Int) :
    resultG runnerObs (rhoRun true true rate draw capH capN) (rEnv shD) FUEL "SequentialRunner._handle_orders"
        [.ref 1, .ref 4, .list (shD.batches.map refs)] (rSt shD)
      = .tuple [.tuple [
          cCall "_trigger_event_before_order" (.ref 3) [.ref 10], cCall "_add_order" (.ref 6) [.ref 10],
          cCall "submitted_order" (.ref 21) [.ref 110], cCall "_trigger_event_after_order" (.ref 3) [.ref 110],
          cCall "_execution" (.ref 6) [], cCall "_update_agents_for_execution" (.ref 3) [.tuple [.ref 30, .ref 31]],
          cCall "executed_order" (.ref 21) [.ref 30], cCall "executed_order" (.ref 22) [.ref 30],
          cCall "_trigger_event_after_execution" (.ref 3) [.ref 30],
          cCall "executed_order" (.ref 22) [.ref 31], cCall "executed_order" (.ref 21) [.ref 31],
          cCall "_trigger_event_after_execution" (.ref 3) [.ref 31]],
        .bool false] := by
  rw [handle_src_D]
  by_cases h0 : rate < draw 0 <;>
  simp [outObs, RShape.model, RShape.rounds, RShape.requests, RShape.request, shD, handle, processBatch,
    processRequest, Out.andThen, hftRound, fillEvents, flagAfterFills, evCalls, traceCalls, cCall, mktAddr,
    agentAddr, logAddr, h0]

end Pams.C05

namespace Pams.C11

/-- the notifications of `_handle_orders` are the model's (`C11.request_callbacks` then says which they
are): the owner of an order / of the cancelled order once after acceptance, buyer then seller once per
fill — on every shape, for every value of the switches -/
theorem source_notifications_are_model :
    HandleSpec K shA ∧ HandleSpec K shB ∧ HandleSpec K shD ∧ HandleSpec K shF ∧ HandleSpec K shG :=
  ⟨handle_src_A, handle_src_B, handle_src_D, handle_src_F, handle_src_G⟩

end Pams.C11

namespace Pams.C13

/-- **`_run` is the model's `run`**: begin-of-simulation record, clocks to 0, then per session
before-session dispatch, session record, the markets' running flags, per step the before-step dispatch
and step record of every market, the update of the markets (if placement is on), the end-of-step record
and after-step dispatch of every market, the clocks; after-session dispatch, record; end-of-simulation
record — with the order / cancel / fill dispatches inside `_handle_orders` (shape B) -/
theorem source_run_is_model :
    RunSpec K rA (fun _ s1 => s1.flag) ∧ RunSpec K rB (fun s0 _ => s0.flag) ∧ RunSpec K rC (fun _ s1 => s1.flag) ∧
    RunSpec K rD (fun s0 _ => s0.flag) ∧ RunSpec K rE (fun s0 _ => s0.flag) :=
  ⟨run_src_A, run_src_B, run_src_C, run_src_D, run_src_E⟩

end Pams.C13

namespace Pams.C06

/-- spelled out (shape C: a session of no steps, then one of one step; placement off): **the clocks are
advanced once before the first session and once at the end of every step, after the after-step
dispatches of all markets** — a session of no steps advances nothing -/
theorem source_clock_advances (s0 s1 : SessP K) (draw : Nat → K) (hp : s1.placement = false) :
    resultG runObs (rhoRun2 s0 s1 draw) (rEnv rC) 200 "SequentialRunner._run" [.ref 1] (rSt rC)
      = .tuple [.tuple [
          cCall "SimulationBeginLog" .none [.ref 3], cCall "read_and_write" (.ref 800) [.ref 8],
          cCall "_process" (.ref 8) [],
          cCall "_update_times_on_markets" (.ref 3) [mkts],
          cCall "_trigger_event_before_session" (.ref 3) [.ref 4],
          cCall "SessionBeginLog" .none [.ref 4, .ref 3], cCall "read_and_write" (.ref 604) [.ref 8],
          cCall "_process" (.ref 8) [],
          cCall "_trigger_event_after_session" (.ref 3) [.ref 4],
          cCall "SessionEndLog" .none [.ref 4, .ref 3], cCall "read_and_write" (.ref 704) [.ref 8],
          cCall "_process" (.ref 8) [],
          cCall "_trigger_event_before_session" (.ref 3) [.ref 9],
          cCall "SessionBeginLog" .none [.ref 9, .ref 3], cCall "read_and_write" (.ref 609) [.ref 8],
          cCall "_process" (.ref 8) [],
          cCall "_trigger_event_before_step_for_market" (.ref 3) [.ref 5],
          cCall "MarketStepBeginLog" .none [.ref 9, .ref 5, .ref 3],
          cCall "read_and_write_with_direct_process" (.ref 405) [.ref 8],
          cCall "_trigger_event_before_step_for_market" (.ref 3) [.ref 6],
          cCall "MarketStepBeginLog" .none [.ref 9, .ref 6, .ref 3],
          cCall "read_and_write_with_direct_process" (.ref 406) [.ref 8],
          cCall "MarketStepEndLog" .none [.ref 9, .ref 5, .ref 3],
          cCall "read_and_write_with_direct_process" (.ref 505) [.ref 8],
          cCall "_trigger_event_after_step_for_market" (.ref 3) [.ref 5],
          cCall "MarketStepEndLog" .none [.ref 9, .ref 6, .ref 3],
          cCall "read_and_write_with_direct_process" (.ref 506) [.ref 8],
          cCall "_trigger_event_after_step_for_market" (.ref 3) [.ref 6],
          cCall "_update_times_on_markets" (.ref 3) [mkts],
          cCall "_trigger_event_after_session" (.ref 3) [.ref 9],
          cCall "SessionEndLog" .none [.ref 9, .ref 3], cCall "read_and_write" (.ref 709) [.ref 8],
          cCall "_process" (.ref 8) [],
          cCall "SimulationEndLog" .none [.ref 3], cCall "read_and_write" (.ref 801) [.ref 8],
          cCall "_process" (.ref 8) []],
        .bool s1.flag, .bool s1.flag] := by
  rw [run_src_C]
  rcases s0 with ⟨p0, f0, r0, h0, n0⟩
  rcases s1 with ⟨p1, f1, r1, h1, n1⟩
  simp only at hp
  subst hp
  simp [runOut, RShape.runModel, RShape.stepTapes, RShape.rounds, RShape.requests, SessP.cfg, rC, twoMarkets,
    runSessions, runSession, runSteps, runStep, stepBefore, stepAfter, ticks, Out.andThen, evCalls, traceCalls, cCall,
    mkts, mktAddr, sessAddr]

end Pams.C06

namespace Pams.C10

/-- the records the runner itself writes — simulation, session and step records — are written where
the model says, and the blocking ones are followed by `logger._process()` (the model's `flush`): on
every run shape, for every value of the switches -/
theorem source_runner_records_are_model :
    RunSpec K rA (fun _ s1 => s1.flag) ∧ RunSpec K rB (fun s0 _ => s0.flag) ∧ RunSpec K rD (fun s0 _ => s0.flag) :=
  ⟨run_src_A, run_src_B, run_src_D⟩

end Pams.C10
