/-
C10 — Logger sees every order, cancel, fill and expiry exactly once, in order.

Three layers: (1) the market emits exactly one record per event (the `Rec` list returned by
`Market.step`, PamsModel/History.lean — tied to the real logger stream by the correspondence);
(2) the logger delivers what was written exactly once, in order, queued records at the latest at
the next flush, direct records at once (this file); (3) the runner writes begin/end records and
flushes at every session boundary (PamsModel/Runner.lean).
-/
import PamsModel.Logger
import PamsLemmas.MarketLemmas
import PamsLemmas.RunnerLemmas

namespace Pams.C10
open Pams.Logger

variable {α : Type}

theorem run_append (s : LState α) (a b : List (LOp α)) : run s (a ++ b) = run (run s a) b := by
  simp [run, List.foldl_append]

/-- the queued part of the delivered stream -/
def queuedDelivered (ops : List (LOp α)) : List α × List α :=
  ops.foldl (fun (acc : List α × List α) op =>
    match op with
    | .write l => (acc.1, acc.2 ++ [l])
    | .bulkWrite ls => (acc.1, acc.2 ++ ls)
    | .direct _ => acc
    | .flush => (acc.1 ++ acc.2, [])) ([], [])

theorem queued_invariant (ops : List (LOp α)) (d p : List α) :
    let r := ops.foldl (fun (acc : List α × List α) op =>
      match op with
      | .write l => (acc.1, acc.2 ++ [l])
      | .bulkWrite ls => (acc.1, acc.2 ++ ls)
      | .direct _ => acc
      | .flush => (acc.1 ++ acc.2, [])) (d, p)
    r.1 ++ r.2 = d ++ p ++ written ops := by
  induction ops generalizing d p with
  | nil => simp [written]
  | cons o os ih => cases o <;> simp [written, ih]

/-- Queue discipline: whatever the interleaving of writes, bulk writes, direct deliveries and
flushes, "delivered so far followed by what is still pending" is exactly the sequence of written
records (`queued_invariant`).  Every written record is delivered exactly once, in the order written, no later than the next
flush: after an operation sequence that ends with a flush, the queued part of the delivered
stream is exactly the written records. -/
theorem delivered_eq_written (ops : List (LOp α)) :
    (queuedDelivered (ops ++ [.flush])).1 = written ops ∧ (queuedDelivered (ops ++ [.flush])).2 = [] := by
  have h := queued_invariant ops ([] : List α) []
  simp only [queuedDelivered, List.foldl_append, List.foldl_cons, List.foldl_nil]
  exact ⟨by simpa using h, trivial⟩

theorem run_invariant (ops : List (LOp α)) (s : LState α) (hd : directs ops = []) :
    (run s ops).delivered ++ (run s ops).pending = s.delivered ++ s.pending ++ written ops := by
  induction ops generalizing s with
  | nil => simp [run, written]
  | cons o os ih =>
    have e : run s (o :: os) = run (step s o) os := rfl
    cases o with
    | write l => rw [e, ih _ (by simpa [directs] using hd)]; simp [step, written]
    | bulkWrite ls => rw [e, ih _ (by simpa [directs] using hd)]; simp [step, written]
    | direct l => simp [directs] at hd
    | flush => rw [e, ih _ (by simpa [directs] using hd)]; simp [step, written]

theorem run_flush_delivers_written (ops : List (LOp α)) (hd : directs ops = []) :
    (run ({ pending := [], delivered := [] } : LState α) (ops ++ [.flush])).delivered = written ops ∧
    (run ({ pending := [], delivered := [] } : LState α) (ops ++ [.flush])).pending = [] := by
  have h := run_invariant ops ({ pending := [], delivered := [] } : LState α) hd
  rw [run_append]
  exact ⟨by simpa [run, step] using h, rfl⟩

/-- the real state machine delivers in total (queued and direct records interleaved) a sequence
whose length is what was written before the last flush plus what was handed over directly -/
theorem total_delivered (ops : List (LOp α)) (s : LState α) :
    (run s ops).delivered.length + (run s ops).pending.length =
      s.delivered.length + s.pending.length + (written ops).length + (directs ops).length := by
  induction ops generalizing s with
  | nil => simp [run, written, directs]
  | cons o os ih =>
    have e : run s (o :: os) = run (step s o) os := rfl
    rw [e, ih]
    cases o <;> simp [step, written, directs] <;> omega

/-- step records are delivered synchronously: a direct record is in the delivered stream as soon
as the operation returns, whatever is pending -/
theorem direct_is_synchronous (s : LState α) (l : α) :
    (step s (.direct l)).delivered = s.delivered ++ [l] ∧ (step s (.direct l)).pending = s.pending :=
  ⟨rfl, rfl⟩

/-- a flush empties the queue into the delivered stream in order -/
theorem flush_delivers_all (s : LState α) :
    (step s .flush).delivered = s.delivered ++ s.pending ∧ (step s .flush).pending = [] := ⟨rfl, rfl⟩

open Pams in
/-- one record per accepted order; one per accepted cancel; one per fill of a round, in fill
order; one per expired order -/
theorem one_record_per_event {P : Type} [LinearOrder P] (ops : PriceOps P) (m : Market P) :
    (∀ r, (m.step ops (.add r)).2.length = 1) ∧
    (∀ id m' l, m.cancel ops id = .ok (m', l) → (m.step ops (.cancel id)).2 = [Rec.cancel l]) ∧
    (∀ m' fs, m.execution ops = .ok (m', fs) → (m.step ops .exec).2 = fs.map Rec.fill) ∧
    (∀ f, (m.step ops (.tick f)).2.length =
        (Book.expiredAt (m.time + 1) m.buys).length + (Book.expiredAt (m.time + 1) m.sells).length) :=
  ⟨fun _ => rfl, fun _ _ _ h => congrArg Prod.snd (step_cancel_ok h),
    fun _ _ h => congrArg Prod.snd (step_exec_ok h), fun f => by simp [Market.step, Market.tick]⟩

open Pams.Runner in
/-- the runner flushes at every session boundary and writes the begin/end records -/
theorem session_records (ms : Markets) (k : Nat) (cfg : SessionCfg) (start : Nat) (tapes : List StepTape)
    (hok : (runSession ms k cfg start tapes).ok = true) :
    ∃ mid, (runSession ms k cfg start tapes).tr =
      [Ev.hookSessionBefore k start, Ev.sessionBegin k, Ev.flush] ++ mid ++
      [Ev.hookSessionAfter k (((start + cfg.steps : Nat) : Int) - 1), Ev.sessionEnd k, Ev.flush] := by
  rw [runSession_eq] at hok ⊢
  dsimp only at hok ⊢
  rw [if_pos hok]
  exact ⟨ms.map (fun m => Ev.setRunning m.1 cfg.execution) ++
    (runSteps ms cfg start cfg.execution tapes cfg.steps).tr, by simp only [List.append_assoc]⟩

theorem nonvacuous :
    (run ({ pending := [], delivered := [] } : LState Nat)
      [.write 1, .direct 7, .bulkWrite [2, 3], .flush, .write 4]).delivered = [7, 1, 2, 3] ∧
    (run ({ pending := [], delivered := [] } : LState Nat)
      [.write 1, .direct 7, .bulkWrite [2, 3], .flush, .write 4]).pending = [4] := by decide

end Pams.C10
