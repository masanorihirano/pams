/-
C13 — Event hooks fire exactly at their registered occasions, times and markets.
-/
import PamsLemmas.SourceTie
import PamsModel.Hooks
import PamsLemmas.RunnerLemmas

namespace Pams.C13
open Pams.Hooks

/-- a hook cannot be registered twice; registering a new hook keeps the earlier ones, in order -/
theorem no_double_registration (tbl : Table) (h : Hook) :
    (h ∈ tbl → register tbl h = none) ∧
    ((∀ x ∈ tbl, x.id ≠ h.id) → register tbl h = some (tbl ++ [h])) := by
  unfold register
  constructor
  · intro hm
    rw [if_pos (List.any_eq_true.mpr ⟨h, hm, by simp⟩)]
  · intro hn
    rw [if_neg (by simpa using hn)]

/-- tables built by `register` have pairwise distinct hook identities -/
def Distinct (tbl : Table) : Prop := (tbl.map (·.id)).Nodup

theorem register_distinct (tbl tbl' : Table) (h : Hook) (hd : Distinct tbl)
    (hr : register tbl h = some tbl') : Distinct tbl' := by
  unfold register at hr
  split at hr
  · cases hr
  next hn =>
    cases hr
    unfold Distinct at hd ⊢
    simpa [List.nodup_append, hd] using hn

/-- whether the occurrence's time is in the hook's time list (always, if none is given) -/
def timeOK (h : Hook) (t : Int) : Bool :=
  match h.times with
  | none => true
  | some ts => ts.contains t

theorem count_filter_nodup {α : Type} [DecidableEq α] {l : List α} (hd : l.Nodup) (p : α → Bool)
    {a : α} (hm : a ∈ l) : (l.filter p).count a = if p a then 1 else 0 := by
  split
  next hp => rw [List.count_filter hp, hd.count, if_pos hm]
  next hp => exact List.count_eq_zero.mpr fun hmem => hp (List.mem_filter.mp hmem).2

/-- Exactly-once dispatch: a registered hook is invoked exactly once for an occurrence of its
type whose time is in its time list (always, if it has none) and — for market-step hooks — whose
market passes its class and instance filter, and not at all otherwise. -/
theorem dispatch_count (tbl : Table) (hd : Distinct tbl) (h : Hook) (hm : h ∈ tbl)
    (kind : Kind) (t : Int) (market : Option (Nat × Bool)) :
    (dispatch tbl kind t market).count h =
      if h.kind = kind ∧ timeOK h t = true ∧ filterOK h market = true then 1 else 0 := by
  have hd' : tbl.Nodup := List.Pairwise.of_map (·.id) (fun _ _ hne e => hne (e ▸ rfl)) hd
  unfold dispatch bucket
  rw [List.filter_append, List.count_append, List.filter_filter, List.filter_filter,
    count_filter_nodup hd' _ hm, count_filter_nodup hd' _ hm]
  -- a hook without a time list is filed under `none` only, one with a list under its times only
  unfold keysOf timeOK
  rcases h.times with _ | ts
  · simp [and_comm]
  · simp [List.mem_eraseDups, and_comm, and_assoc]

/-- a hook that is not registered is never invoked -/
theorem dispatch_only_registered (tbl : Table) (kind : Kind) (t : Int)
    (market : Option (Nat × Bool)) : ∀ h ∈ dispatch tbl kind t market, h ∈ tbl ∧ h.kind = kind := by
  intro h hh
  unfold dispatch bucket at hh
  simp only [List.mem_filter, List.mem_append, Bool.and_eq_true, decide_eq_true_eq] at hh
  rcases hh.1 with h1 | h1 <;> exact ⟨h1.1, h1.2.1⟩

/-- the market filter: class requirement (`isinstance`) and instance requirement (identity) -/
theorem filter_spec (h : Hook) (mid : Nat) (isIndex : Bool) :
    filterOK h (some (mid, isIndex)) = true ↔
      (h.cls = some .index → isIndex = true) ∧ (∀ i, h.inst = some i → i = mid) := by
  unfold filterOK
  rcases h.cls with _ | c <;> rcases h.inst with _ | i <;> (try cases c) <;> simp

/-- In the scheduler every occurrence triggers its dispatch exactly once and 'before' dispatches
precede the occurrence taking effect: the request-processing trace has the shape
before-hook, market call, owner callback, after-hook (then the round, with one after-execution
dispatch per fill). -/
theorem every_occurrence_dispatched (t : Nat) (r : Pams.Runner.Request) (fs : List Pams.Runner.RFill)
    (ha : r.accepted = true) (hf : r.fills = some fs) (hc : r.isCancel = false) :
    (Pams.Runner.processRequest t true r).tr =
      [.hookOrderBefore r.ref t, .addOrder r.market r.ref, .cbSubmitted r.owner r.ref,
       .hookOrderAfter r.ref t, .execution r.market, .ledger (fs.map (·.ref))] ++
      Pams.Runner.fillEvents t fs := by
  simp [Pams.Runner.processRequest_round ha hf, Pams.Runner.ownEvents, hc]

/-! Non-vacuity: a hook with a repeated time entry is invoked once -/
def h1 : Hook := { id := 0, event := 0, kind := .marketBefore, times := some [5, 5, 7], cls := some .market, inst := some 2 }
def h2 : Hook := { id := 1, event := 1, kind := .marketBefore, times := none, cls := some .index, inst := none }
theorem nonvacuous :
    (dispatch [h1, h2] .marketBefore 5 (some (2, false))).map (·.id) = [0] ∧
    (dispatch [h1, h2] .marketBefore 5 (some (2, true))).map (·.id) = [1, 0] ∧
    (dispatch [h1, h2] .marketBefore 6 (some (2, false))).map (·.id) = [] ∧
    register [h1, h2] h1 = none := by decide

/-- (T) the time source of every dispatch site in the current sources: market time for before-order /
before-cancel / market steps, log time for after-order / after-cancel / after-execution, session
start for before-session, `start + steps - 1` for after-session -/
theorem source_trigger_times :
    PamsGen.triggerTimes =
      [("_trigger_event_before_order", "self.id2market[order.market_id].get_time()"),
       ("_trigger_event_after_order", "order_log.time"),
       ("_trigger_event_before_cancel", "self.id2market[cancel.market_id].get_time()"),
       ("_trigger_event_after_cancel", "cancel_log.cancel_time"),
       ("_trigger_event_after_execution", "execution_log.time"),
       ("_trigger_event_before_session", "session.session_start_time"),
       ("_trigger_event_after_session", "session.session_start_time + session.iteration_steps - 1"),
       ("_trigger_event_before_step_for_market", "market.get_time()"),
       ("_trigger_event_after_step_for_market", "market.get_time()")] := by decide +kernel

/-- (T) hook sites of the request loop in the current sources: the before-hook is the first thing
that happens to a request, the market call follows it directly, the after-hook comes after the
owner's notification, and the after-execution hook is dispatched once per fill inside the loop -/
theorem source_hook_sites :
    ∀ x ∈ PamsGen.requestPaths,
      x.2.2.2.take 2 = (if x.2.1 then ["_trigger_event_before_cancel", "_cancel_order"]
                        else ["_trigger_event_before_order", "_add_order"]) ∧
      (x.2.2.2.drop 2).take 3 = (if x.2.1 then ["agent:order.agent_id", "canceled_order", "_trigger_event_after_cancel"]
                                 else ["agent:agent_id", "submitted_order", "_trigger_event_after_order"]) ∧
      (x.2.2.1 = true → x.2.2.2.drop (x.2.2.2.length - 2) = ["_trigger_event_after_execution", "]"]) := by decide +kernel

end Pams.C13
