/-
C14 — Shocks hit only their target market, in their window, with their magnitude.
(The effect of a fundamental shock on the generated path — only the target's value at that step is
scaled, earlier values kept, later values continue from the new level — is `Pams.C12.shock_*`.)
-/
import PamsLemmas.SrcEvents
import PamsLemmas.SourceTie
import PamsModel.Events
import PamsProps.C13
import PamsLemmas.FieldArith
import Mathlib.Algebra.Order.Field.Rat

namespace Pams.C14
open Pams Pams.Events Pams.Hooks

/-- A fundamental price shock registers one before-step hook; with the dispatch of C13 its handler
runs exactly once at each step of its window `[start + trigger, start + trigger + length)` for its
target market, and never for another market or another time. -/
theorem fshock_window (id event sessionStart trigger length target : Nat) (t m : Nat) (isIndex : Bool) :
    (dispatch [fshockHook id event sessionStart trigger length target] .marketBefore t
        (some (m, isIndex))).count (fshockHook id event sessionStart trigger length target) =
      if m = target ∧ sessionStart + trigger ≤ t ∧ t < sessionStart + trigger + length then 1 else 0 := by
  have ht : Pams.C13.timeOK (fshockHook id event sessionStart trigger length target) t = true ↔
      sessionStart + trigger ≤ t ∧ t < sessionStart + trigger + length := by
    simp only [Pams.C13.timeOK, fshockHook, List.contains_iff_mem, List.mem_map, List.mem_range]
    exact ⟨by rintro ⟨i, hi, he⟩; omega, fun h => ⟨t - (sessionStart + trigger), by omega, by omega⟩⟩
  have hf : filterOK (fshockHook id event sessionStart trigger length target) (some (m, isIndex)) = true ↔
      m = target := by
    simp [filterOK, fshockHook, eq_comm]
  rw [Pams.C13.dispatch_count _ (by simp [Pams.C13.Distinct]) _ (by simp)]
  refine if_congr ?_ rfl rfl
  rw [ht, hf]
  exact ⟨fun ⟨_, h1, h2⟩ => ⟨h2, h1⟩, fun ⟨h2, h1⟩ => ⟨rfl, h1, h2⟩⟩

/-- it is not invoked for other occasions at all -/
theorem fshock_only_market_steps (id event sessionStart trigger length target : Nat) (k : Kind)
    (hk : k ≠ .marketBefore) (t : Nat) (mk : Option (Nat × Bool)) :
    dispatch [fshockHook id event sessionStart trigger length target] k t mk = [] := by
  refine List.eq_nil_iff_forall_not_mem.mpr fun h hh => ?_
  obtain ⟨hm, hk'⟩ := Pams.C13.dispatch_only_registered _ k t mk h hh
  rw [List.mem_singleton.mp hm] at hk'
  exact hk hk'.symm

variable {K : Type} [Field K] [LinearOrder K] [IsStrictOrderedRing K]

/-- what the property asks of a dispatch sequence at the trigger time: the first order for the
target market is replaced, every other order (before it or after it, for whatever market) is left
alone -/
def firstTargetOnly (target : Nat) (repl : Mistake K) : List Nat → List (Option (Mistake K))
  | [] => []
  | m :: ms => if m = target then some repl :: ms.map (fun _ => none)
               else none :: firstTargetOnly target repl ms

/-- The order-mistake shock replaces exactly one order, the first one submitted to its target
market at its trigger time, and alters no other order. -/
theorem mistake_first_target_only (target : Nat) (rate : K) (vol ttl : Nat) (price : Nat → K)
    (ms : List Nat) :
    mistakeRun target rate vol ttl price { triggered := false } ms =
      firstTargetOnly target { isBuy := decide ((0 : K) < rate), price := price target * (1 + rate),
                               vol := vol, ttl := ttl } ms := by
  have htrig : ∀ ms : List Nat, mistakeRun target rate vol ttl price { triggered := true } ms =
      ms.map (fun _ => none) := by
    intro ms
    induction ms with
    | nil => rfl
    | cons m ms ih => simp [mistakeRun, mistakeHook, ih]
  induction ms with
  | nil => rfl
  | cons m ms ih =>
    by_cases hm : m = target
    · subst hm
      simp [mistakeRun, mistakeHook, htrig, firstTargetOnly]
    · simp [mistakeRun, mistakeHook, hm, ih, firstTargetOnly]

/-- the replacement: a limit order of the configured volume and lifetime priced at
market price × (1 + rate), buying iff the rate is positive -/
theorem mistake_replacement (target : Nat) (rate : K) (vol ttl : Nat) (mp : K) :
    (mistakeHook target rate vol ttl { triggered := false } target mp).2.map
        (fun x => (x.isBuy, x.price, x.vol, x.ttl)) =
      some (decide ((0 : K) < rate), mp * (1 + rate), vol, ttl) ∧
    (mistakeHook target rate vol ttl { triggered := false } target mp).1.triggered = true := by
  simp [mistakeHook]

/-- orders for other markets are never altered -/
theorem mistake_other_market (target : Nat) (rate : K) (vol ttl : Nat) (s : MistakeState) (m : Nat)
    (mp : K) (hm : m ≠ target) : mistakeHook target rate vol ttl s m mp = (s, none) := by
  simp [mistakeHook, hm]

theorem nonvacuous :
    (mistakeRun 1 (-(1/10) : ℚ) 10000 5 (fun _ => 300) { triggered := false } [0, 2, 1, 1, 0]).map
      (fun o => o.map (fun x => (x.isBuy, x.price, x.vol, x.ttl))) =
    [none, none, some (false, 270, 10000, 5), none, none] := by
  decide +kernel

/-- (T) `OrderMistakeShock.hooked_before_order` in the current sources: target test `==`, side `> 0` -/
theorem source_mistake_hook :
    Pams.Source.opsOf "OrderMistakeShock.hooked_before_order" = ["==", ">"] := by decide +kernel


section SourceCode
open Pams.Py Pams.Src
variable {K : Type} [LinearOrder K] [NumOpsC K]

/-- **the source of `OrderMistakeShock.hooked_before_order` is the model's `mistakeHook`** (the
order's side, kind, volume, price, lifetime and the shock's flag after the hook) -/
theorem code_mistake_hook (p rate mp : K) (mkt vol0 ttl vol : Nat) (isBuy trig : Bool) :
    resultG omsObs (rhoOms p rate mp mkt vol0 ttl vol isBuy trig) evEnv FUEL
      "OrderMistakeShock.hooked_before_order" [.ref 3, .ref 7, .ref 1] (omsSt true)
      = (match Events.mistakeHook 5 rate vol ttl { triggered := trig } mkt mp with
         | (s, some m) => .tuple [.bool m.isBuy, .ref 101, .int m.vol, .num m.price, .int m.ttl, .bool s.triggered]
         | (s, none) => .tuple [.bool isBuy, .ref 101, .int vol0, .num p, .none, .bool s.triggered]) := by
  rw [resultG_eq_of_agreeO _ (events_agree omsCase (by simp [evCases]))]
  have hc : ((mkt : Int) = 5) ↔ mkt = 5 := by omega
  cases trig <;> by_cases h : mkt = 5 <;> simp [omsT, py_eval, rhoOms, Events.mistakeHook, hc, h]

/-- **the source of `FundamentalPriceShock.hooked_before_step_for_market`**: inside the window
exactly one `change_fundamental_price(scale = 1 + rate)` on the target; outside it refuses -/
theorem code_fundamental_shock (rate : K) (time trigger length : Nat) :
    resultG callsObs (rhoFps rate time trigger length) evEnv FUEL
      "FundamentalPriceShock.hooked_before_step_for_market" [.ref 3, .ref 7, .ref 5] fpsSt
      = (if trigger ≤ time ∧ time < trigger + length then
           .tuple [.tuple [.str "change_fundamental_price", .ref 5, .num ((NumOpsC.ofInt 1 : K) + rate)]]
         else .err (.raise "AssertionError")) := by
  rw [resultG_eq_of_agreeO _ (events_agree (fpsCase 5) (by simp [evCases]))]
  have hc : ((time : Int) < trigger + length) ↔ time < trigger + length := by omega
  by_cases h1 : trigger ≤ time <;> by_cases h2 : time < trigger + length <;>
    simp [fpsT, py_eval, rhoFps, hc, h1, h2]

end SourceCode

end Pams.C14
