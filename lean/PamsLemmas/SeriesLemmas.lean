import PamsLemmas.MarketLemmas

set_option linter.unusedSectionVars false

namespace Pams
variable {P : Type} [LinearOrder P]

theorem addOrder_past (ops : PriceOps P) (m : Market P) (r : Req P) :
    (m.addOrder ops r).1.past = m.past ∧ (m.addOrder ops r).1.time = m.time := by
  unfold Market.addOrder
  cases r.isBuy <;> exact ⟨rfl, rfl⟩

theorem cancel_past {ops : PriceOps P} {m m' : Market P} {id : Nat} {l : CancelLog P}
    (hc : m.cancel ops id = .ok (m', l)) :
    m'.past = m.past ∧ m'.time = m.time := by
  obtain ⟨o, -, ⟨-, rfl⟩ | ⟨-, rfl⟩ | ⟨-, rfl⟩⟩ := cancel_cases hc <;> exact ⟨rfl, rfl⟩

theorem tick_clock_past (ops : PriceOps P) (m : Market P) (f : Option P) :
    (m.tick ops f).1.past = m.cur :: m.past ∧ (m.tick ops f).1.time = m.time + 1 := ⟨rfl, rfl⟩

theorem setTime_clock_past (ops : PriceOps P) (m : Market P) (k : Nat) (f : Option P) :
    (m.setTime ops k f).1.past = List.replicate (k - 1) (Slot.empty ops) ++ (m.cur :: m.past) ∧
    (m.setTime ops k f).1.time = m.time + k := ⟨rfl, rfl⟩

/-- the slots an operation adds to the recorded past: one per unit of time the clock moves -/
def newSlots (ops : PriceOps P) (m : Market P) : Op P → List (Slot P)
  | .tick _ => [m.cur]
  | .jump k _ => List.replicate k (Slot.empty ops) ++ [m.cur]
  | _ => []

theorem step_past (ops : PriceOps P) (m : Market P) (o : Op P) :
    (m.step ops o).1.past = newSlots ops m o ++ m.past ∧
      (m.step ops o).1.time = m.time + (newSlots ops m o).length := by
  cases o with
  | add r => exact addOrder_past ops m r
  | cancel id =>
    rcases step_cancel ops m id with h | ⟨m', l, hc, h⟩ <;> rw [h]
    · exact ⟨rfl, rfl⟩
    · exact cancel_past hc
  | exec => rcases step_exec ops m with h | ⟨price, -, h⟩ <;> rw [h] <;> exact ⟨rfl, rfl⟩
  | tick f => exact tick_clock_past ops m f
  | jump k f => simpa [Market.step, newSlots] using setTime_clock_past ops m (k + 1) f
  | setRunning b => exact ⟨rfl, rfl⟩
  | setFund f => exact ⟨rfl, rfl⟩

def opTicks : Op P → Nat
  | .tick _ => 1
  | .jump k _ => k + 1
  | _ => 0

theorem step_time (ops : PriceOps P) (m : Market P) (o : Op P) :
    (m.step ops o).1.time = m.time + opTicks o := by
  rw [(step_past ops m o).2]
  cases o <;> simp [newSlots, opTicks]

theorem runOps_past (ops : PriceOps P) (m : Market P) (os : List (Op P)) :
    ∃ new, (m.runOps ops os).1.past = new ++ m.past ∧ (m.runOps ops os).1.time = m.time + new.length := by
  induction os generalizing m with
  | nil => exact ⟨[], rfl, rfl⟩
  | cons o os ih =>
    obtain ⟨new, h1, h2⟩ := ih (m.step ops o).1
    have hp := step_past ops m o
    exact ⟨new ++ newSlots ops m o, by rw [Market.runOps, h1, hp.1, List.append_assoc],
      by rw [Market.runOps, h2, hp.2, List.length_append]; omega⟩

theorem slotAt_past (m : Market P) (t : Nat) (ht : t < m.time) : m.slotAt t = m.pastAt t := by
  unfold Market.slotAt
  rw [if_neg (by omega), if_neg (by omega)]

theorem slotAt_extend {m m' : Market P} {new : List (Slot P)} (hp : m'.past = new ++ m.past)
    (hT : m'.time = m.time + new.length) {t : Nat} (ht : t < m.time) : m'.slotAt t = m.slotAt t := by
  rw [slotAt_past m' t (by omega), slotAt_past m t ht, Market.pastAt, Market.pastAt, hp, hT,
    List.getElem?_append_right (by omega)]
  congr 2
  omega

end Pams
