/-
`FCNAgent.submit_orders_by_market` as it stands in /repo is the documented formula: every one of the 135 paths
of the symbolic run (in either margin mode) agrees with the decision tree `fcnT`, which asks what the source
asks, in its order, and ends in the orders written as terms; under the hypotheses that exclude the refusals the
tree denotes the formula.  Fixed margin: `C20.source_fcn_is_formula` (PamsProps/SrcAgents.lean); normal margin:
`fcn_src_normal`.
-/
import PamsLemmas.SrcAgents

namespace Pams.Src
open Pams Pams.Py Pams.Py.Tree Pams.Agents
variable {K : Type} [LinearOrder K] [NumOpsC K]

def fcnAgent : String → Option Val
  | "__class__" => some (.str "FCNAgent")
  | "agent_id" => some (.int (.lit 7))
  | "prng" => some (.ref 2)
  | "time_window_size" => some (.int (.atom 2))
  | "mean_reversion_time" => some (.int (.atom 3))
  | "fundamental_weight" => some (.num (.atom 1))
  | "chart_weight" => some (.num (.atom 2))
  | "noise_weight" => some (.num (.atom 3))
  | "noise_scale" => some (.num (.atom 4))
  | "order_margin" => some (.num (.atom 5))
  | "is_chart_following" => some (.bool (.atom 2))
  | "margin_type" => some (.int (.lit 0))
  | _ => none

def fcnHeap : Nat → String → Option Val :=
  fun addr => if addr = 1 then fcnAgent else if addr = 5 then arbComp 0 else fun _ => none

def fcnSt : St := { heap := fcnHeap, calls := [] }

/-- the same agent in normal-margin mode (`margin_type = MARGIN_NORMAL`) -/
def fcnStNormal : St :=
  { heap := fun addr => if addr = 1 then (fun f => if f = "margin_type" then some (.int (.lit 1)) else fcnAgent f)
      else fcnHeap addr, calls := [] }

/-- accessibility = bool atom 1; the market's clock = int atom 1, fundamental price = num atom 10, price
now = 11, price at the start of the window = 12; the Gaussian draws = 13, 14 in call order; every intermediate value is
finite (`is_finite` answers `True`) -/
def fcnExt : Ext := fun st recv fn args =>
  match recv, fn, args with
  | .ref 1, "is_market_accessible", [_] => some (.bool (.atom 1), st)
  | .ref 1, "is_finite", [_] => some (.bool (.lit true), st)
  | .ref 2, "gauss", _ => some (.num (.atom (13 + (st.calls.filter (fun c => c.fn == "gauss")).length)), st)
  | .ref 5, "get_time", [] => some (.int (.atom 1), st)
  | .ref 5, "get_fundamental_price", [] => some (.num (.atom 10), st)
  | .ref 5, "get_market_price", [] => some (.num (.atom 11), st)
  | .ref 5, "get_market_price", [_] => some (.num (.atom 12), st)
  | .none, "Order", as => mkOrderExt st as
  | _, _, _ => none

def fcnEnv : Env :=
  { prog := PamsGen.Code.prog.filter (fun e => e.1 == "FCNAgent.submit_orders_by_market"),
    globals := agentGlobals, ext := fcnExt, mro := PamsGen.Code.mroOf }

/-- the expected log return as the source spells it: the chart term is multiplied by `±1` (the model
`fcnLogReturn` negates instead: equal in a field, see `C20.source_fcn_log_return_real`) -/
def fcnLogReturnSrc (mp fund mpPast wf wc wn noise : K) (tw mrt : Nat) (chartFollowing : Bool) : K :=
  let fScale : K := Arith.one / Arith.ofNat (if mrt < 1 then 1 else mrt)
  let f : K := fScale * ArithT.log (fund / mp)
  let cScale : K := Arith.one / Arith.ofNat (if tw < 1 then 1 else tw)
  let c : K := cScale * ArithT.log (mp / mpPast)
  Arith.one / (wf + wc + wn) * (wf * f + wc * c * PyNum.ofInt (if chartFollowing then 1 else -1) + wn * noise)

/-- valuation: clock `t`, window, mean-reversion time; the weights, noise scale, margin; fundamental price,
price now, price at the start of the window, the Gaussian draw; the two flags -/
def rhoFcn (t window mrt : Nat) (wf wc wn ns margin fund mp mpPast g : K) (accessible cf : Bool) (g2 : K := g) : Rho K :=
  { i := fun k => if k = 1 then t else if k = 2 then window else if k = 3 then mrt else 0
    n := fun k => if k = 1 then wf else if k = 2 then wc else if k = 3 then wn else if k = 4 then ns
      else if k = 5 then margin else if k = 10 then fund else if k = 11 then mp else if k = 12 then mpPast
      else if k = 14 then g2 else g
    b := fun k => if k = 1 then accessible else cf }

/-- the orders the formula gives: window actually used = `min(t, window)` -/
def fcnSrcOrders (t window mrt : Nat) (wf wc wn ns margin fund mp mpPast g : K) (cf : Bool) : List (AOrder K) :=
  let tw := if window < t then window else t
  fcnOrders mp (fcnExpected mp (fcnLogReturnSrc mp fund mpPast wf wc wn (ns * g) tw mrt cf) window) margin window

@[simp] theorem arithT_exp_eq (x : K) : (ArithT.exp x : K) = NumOpsC.exp x := rfl
@[simp] theorem arithT_log_eq (x : K) : (ArithT.log x : K) = NumOpsC.log x := rfl
@[simp] theorem pyNum_exp_eq (x : K) : (PyNum.exp x : K) = NumOpsC.exp x := rfl
@[simp] theorem pyNum_log_eq (x : K) : (PyNum.log x : K) = NumOpsC.log x := rfl

/-- normal-margin mode: both sides quote the expected price displaced by `gauss · margin` (a second draw `g2`) -/
def fcnSrcOrdersNormal (t window mrt : Nat) (wf wc wn ns margin fund mp mpPast g g2 : K) (cf : Bool) : List (AOrder K) :=
  let tw := if window < t then window else t
  let e := fcnExpected mp (fcnLogReturnSrc mp fund mpPast wf wc wn (ns * g) tw mrt cf) window
  let price := e + g2 * margin
  (if mp < e then [{ isBuy := true, price := price, vol := 1, ttl := window }] else []) ++
  (if e < mp then [{ isBuy := false, price := price, vol := 1, ttl := window }] else [])

/-- `expected_future_price`, given the divisors `m = max(mean_reversion_time, 1)`, `c = max(time_window_size, 1)`
and the sign of the chart term -/
def priceN (m c : ITerm) (s : Int) : NTerm :=
  let f : NTerm := .mul (.div (numLit 1) (.ofInt m)) (.log (.div (.atom 10) (.atom 11)))
  let ch : NTerm := .mul (.div (numLit 1) (.ofInt c)) (.log (.div (.atom 11) (.atom 12)))
  let r : NTerm := .mul (.div (numLit 1) (.add (.add (.atom 1) (.atom 2)) (.atom 3)))
    (.add (.add (.mul (.atom 1) f) (.mul (.mul (.atom 2) ch) (numLit s))) (.mul (.atom 3) (.mul (.atom 4) (.atom 13))))
  .mul (.atom 11) (.exp (.mul r (.ofInt (.atom 2))))

/-- the two `if`s on the expected price `e` against the market price (both are asked, whatever the first gave) -/
def sidesT (e buy sell : NTerm) : Tree Obs :=
  ifT (.nlt (.atom 11) e)
    (ifT (.nlt e (.atom 11)) (.leaf (.tuple [orderO 0 true (.lit 1) buy, orderO 0 false (.lit 1) sell]))
      (.leaf (.tuple [orderO 0 true (.lit 1) buy])))
    (ifT (.nlt e (.atom 11)) (.leaf (.tuple [orderO 0 false (.lit 1) sell])) (.leaf (.tuple [])))

/-- `margin_type == MARGIN_FIXED` -/
def fixedT (e : NTerm) : Tree Obs :=
  assertT (.nle (numLit 0) (.atom 5)) <| assertT (.nle (.atom 5) (numLit 1)) <|
    sidesT e (.mul e (.sub (numLit 1) (.atom 5))) (.mul e (.add (numLit 1) (.atom 5)))

/-- `margin_type == MARGIN_NORMAL` -/
def normalT (e : NTerm) : Tree Obs :=
  let p : NTerm := .add e (.mul (.atom 14) (.atom 5))
  assertT (.nle (numLit 0) (.atom 5)) <| assertT (.nle (numLit 0) p) <| sidesT e p p

/-- `submit_orders_by_market` up to the margin mode `q`, in the order of the source: the window used `tw`, the
asserts on the weights, the divisors `m` and `c` with the divisions they guard, the sign of the chart term -/
def fcnT (q : NTerm → Tree Obs) : Tree Obs :=
  ifT (.atom 1)
    ((minT .ilt (.atom 1) (.atom 2)).bind fun tw =>
      assertT (.ile (.lit 0) tw) <| assertT (.nle (numLit 0) (.atom 1)) <| assertT (.nle (numLit 0) (.atom 2)) <|
      assertT (.nle (numLit 0) (.atom 3)) <|
      (maxT .ilt (.atom 3) (.lit 1)).bind fun m => divT (.ofInt m) <| divT (.atom 11) <|
      (maxT .ilt tw (.lit 1)).bind fun c => divT (.ofInt c) <| divT (.atom 12) <|
      divT (.add (.add (.atom 1) (.atom 2)) (.atom 3)) <|
      ifT (.atom 2) (q (priceN m c 1)) (q (priceN m c (-1))))
    (.leaf (.tuple []))

theorem fcn_agree : agreesP ordersObs fcnEnv FUEL "FCNAgent.submit_orders_by_market" [.ref 1, .ref 5] fcnSt
    (fcnT fixedT) = true := by decide +kernel

theorem fcn_agree_normal : agreesP ordersObs fcnEnv FUEL "FCNAgent.submit_orders_by_market" [.ref 1, .ref 5]
    fcnStNormal (fcnT normalT) = true := by decide +kernel

/-! ### what the tree denotes

for any valuation `ρ`; the theorems below put `rhoFcn …` for it, whose look-ups are the model's variables by `rfl` -/
section denote
variable (ρ : Rho K) (t window mrt : Nat)

def fcnSides (mp e buy sell : K) (window : Nat) : List (AOrder K) :=
  (if mp < e then [{ isBuy := true, price := buy, vol := 1, ttl := window }] else []) ++
  (if e < mp then [{ isBuy := false, price := sell, vol := 1, ttl := window }] else [])

theorem sidesT_denote (hw : ρ.i 2 = window) (e buy sell : NTerm) :
    ((sidesT e buy sell).denote ρ).eval ρ =
      .tuple ((fcnSides (ρ.n 11) (e.eval ρ) (buy.eval ρ) (sell.eval ρ) window).map (aorderObs 0)) := by
  by_cases h1 : ρ.n 11 < e.eval ρ <;> by_cases h2 : e.eval ρ < ρ.n 11 <;>
    simp [sidesT, fcnSides, orderO_eval ρ 0 _ (.lit 1) _ 1 window rfl hw, py_eval, h1, h2]

theorem fixedT_denote (hw : ρ.i 2 = window) (e : NTerm) (hm0 : (NumOpsC.ofInt 0 : K) ≤ ρ.n 5)
    (hm1 : ρ.n 5 ≤ NumOpsC.ofInt 1) :
    ((fixedT e).denote ρ).eval ρ = .tuple ((fcnOrders (ρ.n 11) (e.eval ρ) (ρ.n 5) window).map (aorderObs 0)) := by
  simp [fixedT, sidesT_denote ρ window hw, fcnSides, fcnOrders, py_eval, hm0, hm1]

theorem normalT_denote (hw : ρ.i 2 = window) (e : NTerm) (hm0 : (NumOpsC.ofInt 0 : K) ≤ ρ.n 5)
    (hp : (NumOpsC.ofInt 0 : K) ≤ e.eval ρ + ρ.n 14 * ρ.n 5) :
    ((normalT e).denote ρ).eval ρ =
      .tuple ((fcnSides (ρ.n 11) (e.eval ρ) (e.eval ρ + ρ.n 14 * ρ.n 5) (e.eval ρ + ρ.n 14 * ρ.n 5) window).map
        (aorderObs 0)) := by
  simp [normalT, sidesT_denote ρ window hw, py_eval, hm0, hp]

theorem priceN_eval (hw : ρ.i 2 = window) (m c : ITerm) (tw : Nat) (cf : Bool)
    (hm : m.eval ρ = (if mrt < 1 then 1 else mrt : Nat)) (hc : c.eval ρ = (if tw < 1 then 1 else tw : Nat)) :
    (priceN m c (if cf then 1 else -1)).eval ρ =
      fcnExpected (ρ.n 11)
        (fcnLogReturnSrc (ρ.n 11) (ρ.n 10) (ρ.n 12) (ρ.n 1) (ρ.n 2) (ρ.n 3) (ρ.n 4 * ρ.n 13) tw mrt cf) window := by
  simp [priceN, fcnExpected, fcnLogReturnSrc, py_eval, hm, hc, hw]

/-- on an accessible market with non-zero prices and weights ≥ 0 of non-zero sum no refusal is met: the tree
comes down to the margin mode, applied to a term that reads as the expected price.  (The term is `priceN` of the
divisors that `maxT` chooses under `ρ`; the refusals stand between the choices, as in the source, so the choices are
no `Tree NTerm` in front of `q`, and only the term's value is of use: hence `∃`.) -/
theorem fcnT_denote (q : NTerm → Tree Obs) (cf : Bool)
    (h1 : ρ.i 1 = t) (h2 : ρ.i 2 = window) (h3 : ρ.i 3 = mrt) (hacc : ρ.b 1 = true) (hcf : ρ.b 2 = cf)
    (hpos : ∀ n : Int, 0 < n → (NumOpsC.ofInt n : K) ≠ NumOpsC.ofInt 0)
    (hmp : ρ.n 11 ≠ NumOpsC.ofInt 0) (hpast : ρ.n 12 ≠ NumOpsC.ofInt 0)
    (hw : ρ.n 1 + ρ.n 2 + ρ.n 3 ≠ NumOpsC.ofInt 0)
    (hwf : (NumOpsC.ofInt 0 : K) ≤ ρ.n 1) (hwc : (NumOpsC.ofInt 0 : K) ≤ ρ.n 2) (hwn : (NumOpsC.ofInt 0 : K) ≤ ρ.n 3) :
    ∃ e : NTerm,
      e.eval ρ = fcnExpected (ρ.n 11) (fcnLogReturnSrc (ρ.n 11) (ρ.n 10) (ρ.n 12) (ρ.n 1) (ρ.n 2) (ρ.n 3)
        (ρ.n 4 * ρ.n 13) (if window < t then window else t) mrt cf) window ∧
      (fcnT q).denote ρ = (q e).denote ρ := by
  have hdiv (d : ITerm) (n : Nat) (hd : d.eval ρ = (if n < 1 then 1 else n : Nat)) :
      (NTerm.ofInt d).eval ρ ≠ NumOpsC.ofInt 0 := by
    rw [NTerm.eval, hd]
    exact hpos _ (by split <;> omega)
  have htw := minT_denote_nat ρ (.atom 1) (.atom 2) t window h1 h2
  have hm := maxT_denote_nat ρ (.atom 3) (.lit 1) mrt 1 h3 rfl
  have hc := maxT_denote_nat ρ _ (.lit 1) _ 1 htw rfl
  refine ⟨priceN _ _ (if cf then 1 else -1), priceN_eval ρ window mrt h2 _ _ _ cf hm hc, ?_⟩
  rw [fcnT, ifT_denote, BTerm.eval, hacc, if_pos rfl, Tree.denote_bind,
    assertT_denote ρ _ _ (by simp [py_eval, htw]), assertT_denote ρ _ _ (by exact decide_eq_true hwf),
    assertT_denote ρ _ _ (by exact decide_eq_true hwc), assertT_denote ρ _ _ (by exact decide_eq_true hwn),
    Tree.denote_bind, divT_denote ρ _ _ (hdiv _ _ hm), divT_denote ρ (.atom 11) _ hmp, Tree.denote_bind,
    divT_denote ρ _ _ (hdiv _ _ hc), divT_denote ρ (.atom 12) _ hpast, divT_denote ρ _ _ (by exact hw), ifT_denote,
    BTerm.eval, hcf]
  cases cf <;> rfl

end denote

/-- **normal-margin mode of `FCNAgent.submit_orders_by_market`**: the same expected price and sides; the quote is
`E + gauss · margin` for a second Gaussian draw, refused (`AssertionError`) if negative -/
theorem fcn_src_normal (t window mrt : Nat) (wf wc wn ns margin fund mp mpPast g g2 : K) (cf : Bool)
    (hpos : ∀ n : Int, 0 < n → (NumOpsC.ofInt n : K) ≠ NumOpsC.ofInt 0)
    (hmp : mp ≠ NumOpsC.ofInt 0) (hpast : mpPast ≠ NumOpsC.ofInt 0) (hw : wf + wc + wn ≠ NumOpsC.ofInt 0)
    (hwf : (NumOpsC.ofInt 0 : K) ≤ wf) (hwc : (NumOpsC.ofInt 0 : K) ≤ wc) (hwn : (NumOpsC.ofInt 0 : K) ≤ wn)
    (hm0 : (NumOpsC.ofInt 0 : K) ≤ margin)
    (hprice : (NumOpsC.ofInt 0 : K) ≤
      fcnExpected mp (fcnLogReturnSrc mp fund mpPast wf wc wn (ns * g) (if window < t then window else t) mrt cf) window
        + g2 * margin) :
    resultG ordersObs (rhoFcn t window mrt wf wc wn ns margin fund mp mpPast g true cf g2) fcnEnv FUEL
        "FCNAgent.submit_orders_by_market" [.ref 1, .ref 5] fcnStNormal
      = .tuple ((fcnSrcOrdersNormal t window mrt wf wc wn ns margin fund mp mpPast g g2 cf).map (aorderObs 0)) := by
  obtain ⟨e, he, h⟩ := fcnT_denote (rhoFcn t window mrt wf wc wn ns margin fund mp mpPast g true cf g2) t window mrt
    normalT cf rfl rfl rfl rfl rfl hpos hmp hpast hw hwf hwc hwn
  rw [resultG_eq_of_agreeP _ fcn_agree_normal, h,
    normalT_denote _ window rfl e hm0 (by rw [he]; exact hprice), he]
  rfl

end Pams.Src
