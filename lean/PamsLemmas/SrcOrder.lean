/-
`pams/order.py` as it stands in /repo (translated: `PamsGen.Code`) computes what the model
`PamsModel/Order.lean` says — for all accepted orders, by symbolic execution of the source.

Heap layout of the theorems: the order `o k` (k = 1, 2) lives at address `k`; its numeric fields
are atoms — int atoms `10k` (order_id), `10k+1` (placed_at), `10k+2` (agent_id), `10k+3` (volume),
`10k+4` (ttl), `10k+5` (market_id), num atom `k` (price), bool atoms `10k` (is_buy), `10k+1`
(is_canceled) — and the *shape* (market / limit order, ttl given or not) is read off the model order.
The two `OrderKind` constants live at 100 (`MARKET_ORDER`) and 101 (`LIMIT_ORDER`).
-/
import PamsGen.Code
import PamsModel.Order
import PamsLemmas.Agree
import PamsLemmas.SrcTrees
import PamsLemmas.OrderLemmas

namespace Pams.Src
open Pams Pams.Py

variable {K : Type}

/-- the heap object of an accepted order with the given shape -/
def symOrder (k : Nat) (limit hasTtl : Bool) : String → Option Val
  | "__class__" => some (.str "Order")
  | "order_id" => some (.int (.atom (10 * k)))
  | "placed_at" => some (.int (.atom (10 * k + 1)))
  | "agent_id" => some (.int (.atom (10 * k + 2)))
  | "volume" => some (.int (.atom (10 * k + 3)))
  | "ttl" => some (if hasTtl then .int (.atom (10 * k + 4)) else .none)
  | "market_id" => some (.int (.atom (10 * k + 5)))
  | "is_buy" => some (.bool (.atom (10 * k)))
  | "is_canceled" => some (.bool (.atom (10 * k + 1)))
  | "price" => some (if limit then .num (.atom k) else .none)
  | "kind" => some (.ref (if limit then 101 else 100))
  | _ => none

def kindObj (k : Int) : String → Option Val
  | "__class__" => some (.str "OrderKind")
  | "kind_id" => some (.int (.lit k))
  | _ => none

def heap2 (la ta lb tb : Bool) : Nat → String → Option Val :=
  fun addr => if addr = 1 then symOrder 1 la ta else if addr = 2 then symOrder 2 lb tb
    else if addr = 100 then kindObj 0 else if addr = 101 then kindObj 1 else fun _ => none

def st2 (la ta lb tb : Bool) : St := { heap := heap2 la ta lb tb, calls := [] }

def globals : String → Option Val
  | "MARKET_ORDER" => some (.ref 100)
  | "LIMIT_ORDER" => some (.ref 101)
  | "Order" => some (.str "Order")
  | "OrderKind" => some (.str "OrderKind")
  | "Cancel" => some (.str "Cancel")
  | _ => none

/-- the translated program; no extern call is answered (none is made by these functions) -/
def env : Env := { prog := PamsGen.Code.prog, globals := globals, ext := fun _ _ _ _ => none }

/-- the valuation that assigns the fields of the model orders `a` (k = 1) and `b` (k = 2) to the
atoms; `x` gives the remaining int atoms, `y` the remaining bool atoms -/
def rho2 (a b : Order K) (dflt : K) (x : Nat → Int) (y : Nat → Bool) : Rho K :=
  { i := fun k =>
      if k = 10 then a.id else if k = 11 then a.placedAt else if k = 12 then a.agent
      else if k = 13 then a.vol else if k = 14 then (a.ttl.getD 0 : Nat)
      else if k = 20 then b.id else if k = 21 then b.placedAt else if k = 22 then b.agent
      else if k = 23 then b.vol else if k = 24 then (b.ttl.getD 0 : Nat) else x k
    n := fun k => if k = 1 then a.price.getD dflt else if k = 2 then b.price.getD dflt else dflt
    b := fun k => if k = 10 then a.isBuy else if k = 20 then b.isBuy else y k }

-- Fuel bounds the depth of calls and loops of a run.  With too little of it a path ends in a leaf `Err.fuel`,
-- no model tree has such a leaf, and the `_agree` check fails: a fuel constant can be too small, never unsound.
def FUEL : Nat := 100

section
variable (a b : Order K) (d : K) (x : Nat → Int) (y : Nat → Bool)
@[py_eval] theorem rho2_i5 : (rho2 a b d x y).i 5 = x 5 := rfl
@[py_eval] theorem rho2_i10 : (rho2 a b d x y).i 10 = a.id := rfl
@[py_eval] theorem rho2_i11 : (rho2 a b d x y).i 11 = a.placedAt := rfl
@[py_eval] theorem rho2_i14 : (rho2 a b d x y).i 14 = (a.ttl.getD 0 : Nat) := rfl
@[py_eval] theorem rho2_i20 : (rho2 a b d x y).i 20 = b.id := rfl
@[py_eval] theorem rho2_i21 : (rho2 a b d x y).i 21 = b.placedAt := rfl
@[py_eval] theorem rho2_n1 : (rho2 a b d x y).n 1 = a.price.getD d := rfl
@[py_eval] theorem rho2_n2 : (rho2 a b d x y).n 2 = b.price.getD d := rfl
@[py_eval] theorem rho2_b10 : (rho2 a b d x y).b 10 = a.isBuy := rfl
@[py_eval] theorem rho2_b20 : (rho2 a b d x y).b 20 = b.isBuy := rfl
end

variable [LinearOrder K] [NumOpsC K]

/-! ### `Order._gt_lt`, `__lt__`, `__gt__`, `__eq__`, `__ne__`, `__le__`, `__ge__`

The model side as decision trees over the atoms of `st2`, one per method, built from the same parts
as the methods are built from each other: `__lt__` / `__gt__` are `_gt_lt` with the flag fixed, `__eq__`
is a chain of `and`s, `__ne__` its negation, `__le__` / `__ge__` are `__eq__ or __lt__ / __gt__`. -/
section tree
open ITerm NTerm BTerm Tree

/-- `c₁ and … and cₙ`: `yes` if all hold, `no c` at the first `c` that fails -/
def allT : List BTerm → Tree Obs → (BTerm → Tree Obs) → Tree Obs
  | [], yes, _ => yes
  | c :: cs, yes, no => ifT c (allT cs yes no) (no c)

/-- `self.is_buy == other.is_buy`, in the form in which the run has it -/
def sameSideB : BTerm := ieq (ofBool (.atom 10)) (ofBool (.atom 20))

/-- `_check_comparability`, the first thing every method does -/
def sideT (t : Tree Obs) : Tree Obs :=
  node (.not sameSideB) (fun _ => raiseT "ValueError") (fun _ => t)

def boolT (b : Bool) : Tree Obs := leaf (.bool (.lit b))

/-- `_gt_lt` after the side check, under the flag `g` (the bool atom 1, or a constant): `other < self` if `g`,
else `self < other`, on the side the bool atom 10 says (`ltT` of SrcTrees).  The methods return the last
comparison as a term; the tree asks it and answers with the literal (`Obs.agree` accepts that). -/
def gtLtT (g : BTerm) (la lb : Bool) : Tree Obs :=
  ask (.atom 10) fun isBuy =>
    ifT g (ltT isBuy (ordAt 2 lb) (ordAt 1 la) (boolT true) (boolT false))
      (ltT isBuy (ordAt 1 la) (ordAt 2 lb) (boolT true) (boolT false))

/-- the clauses of `__eq__` (the last one, `self.kind == other.kind`, is literally true when it is reached) -/
def eqConds (la lb : Bool) : List BTerm :=
  [ieq (atom 10) (atom 20), if la && lb then neq (atom 1) (atom 2) else .lit (la == lb),
   ieq (atom 11) (atom 21), sameSideB]

/-- the comparison methods of `Order` -/
inductive Cmp | gtLt | lt | gt | eq | ne | le | ge
deriving DecidableEq

def Cmp.all : List Cmp := [.gtLt, .lt, .gt, .eq, .ne, .le, .ge]

theorem Cmp.mem_all (op : Cmp) : op ∈ Cmp.all := by cases op <;> decide

def Cmp.fn : Cmp → String
  | .gtLt => "Order._gt_lt" | .lt => "Order.__lt__" | .gt => "Order.__gt__" | .eq => "Order.__eq__"
  | .ne => "Order.__ne__" | .le => "Order.__le__" | .ge => "Order.__ge__"

/-- the orders at 1 and 2; the flag of `_gt_lt` is the bool atom 1 -/
def Cmp.args : Cmp → List Val
  | .gtLt => [.ref 1, .ref 2, .bool (.atom 1)]
  | _ => [.ref 1, .ref 2]

def Cmp.tree (la lb : Bool) : Cmp → Tree Obs
  | .gtLt => sideT (gtLtT (.atom 1) la lb)
  | .lt => sideT (gtLtT (.lit false) la lb)
  | .gt => sideT (gtLtT (.lit true) la lb)
  | .eq => sideT (allT (eqConds la lb) (boolT true) (fun c => leaf (.bool c)))
  | .ne => sideT (allT (eqConds la lb) (boolT false) (fun c => leaf (.bool c.mkNot)))
  | .le => sideT (allT (eqConds la lb) (boolT true) (fun _ => gtLtT (.lit false) la lb))
  | .ge => sideT (allT (eqConds la lb) (boolT true) (fun _ => gtLtT (.lit true) la lb))
end tree

/-- what the model says the method returns on two orders of one side -/
def Cmp.model (gt : Bool) : Cmp → Order K → Order K → Bool
  | .gtLt => Pams.gtLt gt | .lt => Order.lt | .gt => Order.gt | .eq => Order.eqv
  | .ne => fun a b => !a.eqv b | .le => Order.le | .ge => Order.ge

theorem cmp_agree : ∀ op ∈ Cmp.all, ∀ la lb : Bool,
    agreesA [] obs env FUEL op.fn op.args (st2 la false lb false) (op.tree la lb) = true := by decide +kernel

theorem mkNot_eval (ρ : Rho K) (c : BTerm) : c.mkNot.eval ρ = !c.eval ρ := by
  cases c <;> simp [BTerm.mkNot, py_eval]

theorem allT_denote (ρ : Rho K) (yes : Tree Obs) (no : BTerm → Tree Obs) (v : CObs K)
    (hno : ∀ c, c.eval ρ = false → ((no c).denote ρ).eval ρ = v) :
    ∀ cs : List BTerm, ((allT cs yes no).denote ρ).eval ρ =
      if cs.all (·.eval ρ) then (yes.denote ρ).eval ρ else v
  | [] => rfl
  | c :: cs => by
    cases h : c.eval ρ
    · simp [allT, py_eval, h, hno c h]
    · simp [allT, py_eval, h, allT_denote ρ yes no v hno cs]

section denote
variable (a b : Order K) (d : K) (x : Nat → Int) (y : Nat → Bool)

@[py_eval] theorem sameSideB_eval : sameSideB.eval (rho2 a b d x y) = decide (a.isBuy = b.isBuy) := by
  cases ha : a.isBuy <;> cases hb : b.isBuy <;> simp [sameSideB, py_eval, ha, hb]

theorem sideT_denote (t : Tree Obs) :
    ((sideT t).denote (rho2 a b d x y)).eval (rho2 a b d x y) =
      if a.isBuy = b.isBuy then (t.denote (rho2 a b d x y)).eval (rho2 a b d x y)
      else .err (.raise "ValueError") := by
  by_cases h : a.isBuy = b.isBuy <;> simp [sideT, py_eval, h]

theorem ordAt_reads : (ordAt 1 a.price.isSome).reads (rho2 a b d x y) a ∧ (ordAt 2 b.price.isSome).reads (rho2 a b d x y) b :=
  ⟨⟨optAtom_eval _ _ 1 (d := d) rfl, rfl, rfl⟩, ⟨optAtom_eval _ _ 2 (d := d) rfl, rfl, rfl⟩⟩

theorem gtLtT_denote (g : BTerm) (hs : a.isBuy = b.isBuy) :
    ((gtLtT g a.price.isSome b.price.isSome).denote (rho2 a b d x y)).eval (rho2 a b d x y) =
      .bool (gtLt (g.eval (rho2 a b d x y)) a b) := by
  obtain ⟨ha, hb⟩ := ordAt_reads a b d x y
  have hab := ltT_denote ha hb (boolT true) (boolT false)
  have hba := ltT_denote hb ha (boolT true) (boolT false)
  rw [← hs] at hba
  simp only [gtLtT, py_eval, hab, hba]
  cases hg : g.eval (rho2 a b d x y)
  · rw [show gtLt false a b = a.lt b from rfl]
    cases a.lt b <;> rfl
  · rw [show gtLt true a b = b.lt a from gt_eq_lt_swap a b hs]
    cases b.lt a <;> rfl

theorem eqConds_eval :
    (eqConds a.price.isSome b.price.isSome).all (·.eval (rho2 a b d x y)) = a.eqv b := by
  rcases hpa : a.price with _ | pa <;> rcases hpb : b.price with _ | pb <;>
    simp [eqConds, Order.eqv, py_eval, hpa, hpb, Bool.and_assoc]

theorem allT_eqConds_denote (yes : Tree Obs) (no : BTerm → Tree Obs) (v : CObs K)
    (hno : ∀ c, c.eval (rho2 a b d x y) = false →
      ((no c).denote (rho2 a b d x y)).eval (rho2 a b d x y) = v) :
    ((allT (eqConds a.price.isSome b.price.isSome) yes no).denote (rho2 a b d x y)).eval (rho2 a b d x y) =
      if a.eqv b then (yes.denote (rho2 a b d x y)).eval (rho2 a b d x y) else v := by
  rw [allT_denote _ yes no v hno, eqConds_eval]

theorem Cmp.tree_denote (op : Cmp) :
    ((op.tree a.price.isSome b.price.isSome).denote (rho2 a b d x y)).eval (rho2 a b d x y) =
      if a.isBuy = b.isBuy then .bool (op.model (y 1) a b) else .err (.raise "ValueError") := by
  by_cases hs : a.isBuy = b.isBuy
  · have hgl := fun g => gtLtT_denote a b d x y g hs
    cases op <;> simp only [Cmp.tree, sideT_denote, Cmp.model, hs, if_true]
    · rw [hgl]; rfl
    · rw [hgl]; rfl
    · rw [hgl]; rfl
    · rw [allT_eqConds_denote a b d x y _ _ (.bool false) (fun c h => by simp [py_eval, h])]
      cases a.eqv b <;> rfl
    · rw [allT_eqConds_denote a b d x y _ _ (.bool true) (fun c h => by simp [py_eval, mkNot_eval, h])]
      cases a.eqv b <;> rfl
    · rw [allT_eqConds_denote a b d x y _ _ _ (fun _ _ => hgl _)]
      unfold Order.le
      cases a.eqv b <;> rfl
    · rw [allT_eqConds_denote a b d x y _ _ _ (fun _ _ => hgl _)]
      unfold Order.ge
      cases a.eqv b <;> rfl
  · cases op <;> simp only [Cmp.tree, sideT_denote, hs, if_false]

end denote

/-- **every comparison method of `Order` in the current source is the model's** on two accepted
orders (the shapes of the heap objects are those of `a` and `b`); comparing a buy order with a sell
order raises `ValueError`, whatever the method and the shapes -/
theorem cmp_src (op : Cmp) (a b : Order K) (dflt : K) (x : Nat → Int) (y : Nat → Bool) :
    result (rho2 a b dflt x y) env FUEL op.fn op.args (st2 a.price.isSome false b.price.isSome false) =
      if a.isBuy = b.isBuy then .bool (op.model (y 1) a b) else .err (.raise "ValueError") := by
  rw [← Cmp.tree_denote]
  exact resultG_eq_of_agreeO _ (cmp_agree op op.mem_all _ _)

/-- `placed_at + ttl < time`, or `False` without a ttl -/
def expT (hasTtl : Bool) : Tree Obs :=
  .leaf (.bool (if hasTtl then .ilt (.add (.atom 11) (.atom 14)) (.atom 5) else .lit false))

theorem exp_agree : ∀ hasTtl : Bool, agreesA [] obs env FUEL "Order.is_expired" [.ref 1, .int (.atom 5)]
    (st2 false hasTtl false false) (expT hasTtl) = true := by
  decide +kernel

/-- **`Order.is_expired(time)`** is the model's `Order.expired` (int atom 5 = `time`) -/
theorem is_expired_correct (a b : Order K) (time : Nat) (dflt : K) (x : Nat → Int) (y : Nat → Bool)
    (hx : x 5 = time) :
    result (rho2 a b dflt x y) env FUEL "Order.is_expired" [.ref 1, .int (.atom 5)]
      (st2 false a.ttl.isSome false false) = .bool (a.expired time) := by
  rw [result, resultG_eq_of_agreeO _ (exp_agree _)]
  cases h : a.ttl <;> simp [expT, Order.expired, py_eval, h, hx]
  omega

end Pams.Src
