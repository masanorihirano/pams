/-
Infrastructure for theorems about translated code (`PamsGen/Code.lean`, meaning given by
`PamsModel/Py.lean`):

* `PyNum` for an arbitrary linearly ordered type with uninterpreted arithmetic (`NumOpsC`): the
  comparisons are the order's, `==` is equality, everything else is an opaque function — so a
  theorem proved here holds for the rationals, the reals and (for the order-only part) for the
  finite doubles;
* `Obs` / `CObs`: what is observed of a run, as terms and read under a valuation; `resultG`;
* the evaluation equations of terms, observations and trees under the simp attribute `py_eval`;
* the pruned path enumerations of a symbolic run (`obsPathsPG`: a condition decided higher up on the
  path; `obsPathsAG`: order reasoning over the decided comparisons, `decideO`, under assumptions about
  the initial state) with their soundness: a claim about the observable result, for all inputs,
  follows from the claim on the finitely many paths (`resultG_of_pathsP`, `resultG_of_pathsA`).
  How a source theorem uses them is in `Agree.lean`.
-/
import PamsModel.Py
import PamsLemmas.EvalAttr
import Mathlib.Order.Defs.LinearOrder
import Mathlib.Order.Basic
import Mathlib.Data.Int.Order.Basic
import Lean

namespace Pams.Py

/-- uninterpreted arithmetic on the price type -/
class NumOpsC (K : Type) where
  add : K → K → K
  sub : K → K → K
  mul : K → K → K
  div : K → K → K
  neg : K → K
  ofInt : Int → K
  floor : K → Int
  ceil : K → Int
  fmod : K → K → K
  exp : K → K
  log : K → K
  sqrt : K → K

@[reducible] instance pyNumOfOrder {K : Type} [LinearOrder K] [o : NumOpsC K] : PyNum K :=
  { add := o.add, sub := o.sub, mul := o.mul, div := o.div, neg := o.neg,
    lt := fun a b => a < b, le := fun a b => a ≤ b,
    zero := o.ofInt 0, one := o.ofInt 1, ofNat := fun n => o.ofInt n,
    decLt := fun a b => inferInstanceAs (Decidable (a < b)),
    decLe := fun a b => inferInstanceAs (Decidable (a ≤ b)),
    beq := fun a b => decide (a = b), ofInt := o.ofInt, floor := o.floor, ceil := o.ceil,
    fmod := o.fmod, exp := o.exp, log := o.log, sqrt := o.sqrt }

section
variable {K : Type} [LinearOrder K] [NumOpsC K]
@[simp] theorem pyBeq_eq (a b : K) : PyNum.beq a b = decide (a = b) := rfl
@[simp] theorem arith_zero_eq : (Arith.zero : K) = NumOpsC.ofInt 0 := rfl
@[simp] theorem arith_one_eq : (Arith.one : K) = NumOpsC.ofInt 1 := rfl
@[simp] theorem pyOfInt_eq (i : Int) : (PyNum.ofInt i : K) = NumOpsC.ofInt i := rfl
@[simp] theorem arith_ofNat_eq (n : Nat) : (Arith.ofNat n : K) = NumOpsC.ofInt n := rfl
end

open Lean Elab Tactic Meta in
/-- closes `a = b` with `Eq.refl a` **checked by the kernel only** (the elaborator's own unifier is not
asked first: on the interpreter's terms it is slower than the kernel by an order of magnitude).  If `a`
and `b` are not definitionally equal the kernel rejects the theorem. -/
elab "kernel_rfl" : tactic => do
  let g ← getMainGoal
  let t ← instantiateMVars (← g.getType)
  let some (α, lhs, _) := t.eq? | throwError "kernel_rfl: not an equality"
  let u ← getLevel α
  g.assign (mkApp2 (mkConst ``Eq.refl [u]) α lhs)

namespace Tree
variable {α β : Type}
theorem denote_map {K : Type} [PyNum K] (ρ : Rho K) (g : α → β) :
    ∀ t : Tree α, (t.map g).denote ρ = g (t.denote ρ)
  | leaf a => rfl
  | node c t f => by
    simp only [map, denote]
    split
    · exact denote_map ρ g (t ())
    · exact denote_map ρ g (f ())

theorem denote_bind {K : Type} [PyNum K] (ρ : Rho K) (g : α → Tree β) :
    ∀ t : Tree α, (t.bind g).denote ρ = (g (t.denote ρ)).denote ρ
  | leaf a => rfl
  | node c t f => by
    simp only [bind, denote]
    split
    · exact denote_bind ρ g (t ())
    · exact denote_bind ρ g (f ())
end Tree

/-- what is observed of a run: the returned value and / or chosen parts of the final state, still
as terms; or the error -/
inductive Obs where
  | bool (t : BTerm)
  | int (t : ITerm)
  | num (t : NTerm)
  | none
  | ref (a : Nat)
  | str (s : String)
  | other
  | absent
  | tuple (l : List Obs)
  | err (e : Err)

def Obs.ofVal : Val → Obs
  | .bool t => .bool t
  | .int t => .int t
  | .num t => .num t
  | .none => .none
  | .ref a => .ref a
  | .str s => .str s
  | _ => .other

def Obs.ofOpt : Option Val → Obs
  | some v => Obs.ofVal v
  | Option.none => .absent

/-- the default observation: the returned value, the state dropped -/
def obs : Except Err (Val × St) → Obs
  | .ok (v, _) => Obs.ofVal v
  | .error e => .err e

/-- the concrete reading of an observation under a valuation -/
inductive CObs (K : Type) where
  | bool (b : Bool)
  | int (i : Int)
  | num (x : K)
  | none
  | ref (a : Nat)
  | str (s : String)
  | other
  | absent
  | tuple (l : List (CObs K))
  | err (e : Err)

mutual
def Obs.eval {K : Type} [PyNum K] (ρ : Rho K) : Obs → CObs K
  | .bool t => .bool (t.eval ρ)
  | .int t => .int (t.eval ρ)
  | .num t => .num (t.eval ρ)
  | .none => .none
  | .ref a => .ref a
  | .str s => .str s
  | .other => .other
  | .absent => .absent
  | .tuple l => .tuple (Obs.evalList ρ l)
  | .err e => .err e
def Obs.evalList {K : Type} [PyNum K] (ρ : Rho K) : List Obs → List (CObs K)
  | [] => []
  | o :: os => o.eval ρ :: Obs.evalList ρ os
end

attribute [py_eval] BTerm.eval ITerm.eval NTerm.eval Obs.eval Obs.evalList Tree.denote

theorem Obs.evalList_map {K : Type} [PyNum K] {α : Type} (ρ : Rho K) (f : α → Obs) (l : List α) :
    Obs.evalList ρ (l.map f) = l.map (fun x => (f x).eval ρ) := by
  induction l with
  | nil => rfl
  | cons x l ih => simp only [List.map, Obs.evalList, ih]

theorem Obs.evalList_eq_map {K : Type} [PyNum K] (ρ : Rho K) (l : List Obs) :
    Obs.evalList ρ l = l.map (Obs.eval ρ) := by
  simpa using Obs.evalList_map ρ id l

/-! integer atoms are read as casts of the model's naturals: comparisons go back to `Nat` (the core
lemmas under names of our own: tagging them directly clashes with Mathlib's `zify` set) -/
@[py_eval] theorem int_cast_eq_cast (a b : Nat) : ((a : Int) = (b : Int)) ↔ a = b := Int.natCast_inj
@[py_eval] theorem int_cast_lt_cast (a b : Nat) : ((a : Int) < (b : Int)) ↔ a < b := Int.ofNat_lt
@[py_eval] theorem int_cast_eq_zero (n : Nat) : ((n : Int) = 0) ↔ n = 0 := Int.natCast_eq_zero

def resultG {K : Type} [PyNum K] (g : Except Err (Val × St) → Obs) (ρ : Rho K) (env : Env) (fuel : Nat)
    (fn : String) (args : List Val) (st : St) : CObs K :=
  (g (sem ρ env fuel fn args st)).eval ρ

def result {K : Type} [PyNum K] (ρ : Rho K) (env : Env) (fuel : Nat) (fn : String) (args : List Val)
    (st : St) : CObs K :=
  resultG obs ρ env fuel fn args st

def obsPathsG (g : Except Err (Val × St) → Obs) (env : Env) (fuel : Nat) (fn : String) (args : List Val)
    (st : St) : List (List (BTerm × Bool) × Obs) :=
  ((run env fuel fn args st).map g).paths

theorem resultG_eq_denote {K : Type} [PyNum K] (g : Except Err (Val × St) → Obs) (ρ : Rho K) (env : Env)
    (fuel : Nat) (fn : String) (args : List Val) (st : St) :
    resultG g ρ env fuel fn args st = (((run env fuel fn args st).map g).denote ρ).eval ρ :=
  congrArg (Obs.eval ρ) (Tree.denote_map ρ g (run env fuel fn args st)).symm

def obsPathsPG (g : Except Err (Val × St) → Obs) (env : Env) (fuel : Nat) (fn : String) (args : List Val)
    (st : St) : List (List (BTerm × Bool) × Obs) :=
  ((run env fuel fn args st).map g).pathsP []

section
variable {K : Type} [LinearOrder K] [NumOpsC K]

theorem resultG_of_pathsP (g : Except Err (Val × St) → Obs) (ρ : Rho K) (env : Env)
    (fuel : Nat) (fn : String) (args : List Val) (st : St) (Q : CObs K → Prop)
    (h : ∀ p ∈ obsPathsPG g env fuel fn args st, (∀ cb ∈ p.1, cb.1.eval ρ = cb.2) → Q (p.2.eval ρ)) :
    Q (resultG g ρ env fuel fn args st) := by
  rw [resultG_eq_denote]
  exact Tree.denote_of_pathsP (by simp) ρ (fun (o : Obs) => Q (o.eval ρ)) _ [] (by simp) h

theorem resultG_eq_of_pathsP (g : Except Err (Val × St) → Obs) (ρ : Rho K) (env : Env)
    (fuel : Nat) (fn : String) (args : List Val) (st : St) (c : CObs K)
    (h : ∀ p ∈ obsPathsPG g env fuel fn args st, (∀ cb ∈ p.1, cb.1.eval ρ = cb.2) → p.2.eval ρ = c) :
    resultG g ρ env fuel fn args st = c :=
  resultG_of_pathsP g ρ env fuel fn args st (fun r => r = c) h
end

/-! ### pruning by order reasoning

The conditions decided so far on a path are read as edges of a graph over terms (`a < b`: a strict
edge from `a` to `b`; `¬ a < b`, `a ≤ b`, `a == b`: weak edges); a query is decided when the graph
has a suitable path (a bounded depth-first search).  Sound for every valuation into a linear order. -/

structure Edge (T : Type) where
  src : T
  dst : T
  strict : Bool

/-- the comparison the edge stands for holds under `val` -/
def Edge.Holds {T L : Type} [LinearOrder L] (val : T → L) (e : Edge T) : Prop :=
  if e.strict then val e.src < val e.dst else val e.src ≤ val e.dst

/-- is there a path from `x` to `y` — through at least one strict edge if `s` — of length ≤ fuel? -/
def reach {T : Type} [DecidableEq T] (es : List (Edge T)) : Nat → T → T → Bool → Bool
  | 0, x, y, s => decide (x = y) && !s
  | n + 1, x, y, s =>
    (decide (x = y) && !s) || es.any (fun e => decide (e.src = x) && reach es n e.dst y (s && !e.strict))

theorem reach_sound {T L : Type} [DecidableEq T] [LinearOrder L] (val : T → L) (es : List (Edge T))
    (hv : ∀ e ∈ es, if e.strict then val e.src < val e.dst else val e.src ≤ val e.dst) :
    ∀ (n : Nat) (x y : T) (s : Bool), reach es n x y s = true →
      (if s then val x < val y else val x ≤ val y)
  | 0, x, y, s, h => by
    simp only [reach, Bool.and_eq_true, decide_eq_true_eq, Bool.not_eq_true'] at h
    obtain ⟨rfl, rfl⟩ := h
    simp
  | n + 1, x, y, s, h => by
    simp only [reach, Bool.or_eq_true, Bool.and_eq_true, decide_eq_true_eq, Bool.not_eq_true',
      List.any_eq_true] at h
    rcases h with ⟨rfl, rfl⟩ | ⟨e, he, hsrc, hr⟩
    · simp
    · have hve := hv e he
      have ih := reach_sound val es hv n e.dst y (s && !e.strict) hr
      subst hsrc
      cases hs : s <;> cases hst : e.strict <;> simp [hs, hst] at hve ih ⊢
      · exact le_trans hve ih
      · exact le_trans (le_of_lt hve) ih
      · exact lt_of_le_of_lt hve ih
      · exact lt_of_lt_of_le hve ih

def nEdges : List (BTerm × Bool) → List (Edge NTerm)
  | [] => []
  | (.nlt a b, true) :: r => ⟨a, b, true⟩ :: nEdges r
  | (.nlt a b, false) :: r => ⟨b, a, false⟩ :: nEdges r
  | (.nle a b, true) :: r => ⟨a, b, false⟩ :: nEdges r
  | (.nle a b, false) :: r => ⟨b, a, true⟩ :: nEdges r
  | (.neq a b, true) :: r => ⟨a, b, false⟩ :: ⟨b, a, false⟩ :: nEdges r
  | _ :: r => nEdges r

def iEdges : List (BTerm × Bool) → List (Edge ITerm)
  | [] => []
  | (.ilt a b, true) :: r => ⟨a, b, true⟩ :: iEdges r
  | (.ilt a b, false) :: r => ⟨b, a, false⟩ :: iEdges r
  | (.ile a b, true) :: r => ⟨a, b, false⟩ :: iEdges r
  | (.ile a b, false) :: r => ⟨b, a, true⟩ :: iEdges r
  | (.ieq a b, true) :: r => ⟨a, b, false⟩ :: ⟨b, a, false⟩ :: iEdges r
  | _ :: r => iEdges r

section
variable {K : Type} [LinearOrder K] [NumOpsC K]

theorem nEdges_valid (ρ : Rho K) (known : List (BTerm × Bool)) (hk : ∀ kb ∈ known, kb.1.eval ρ = kb.2) :
    ∀ e ∈ nEdges known, e.Holds (NTerm.eval ρ) := by
  fun_induction nEdges known with
  | case1 => simp
  | case2 a b r ih | case3 a b r ih | case4 a b r ih | case5 a b r ih => -- `<`, `≤` or a negation: one edge
    exact List.forall_mem_cons.mpr
      ⟨by simpa [Edge.Holds, BTerm.eval] using hk _ List.mem_cons_self, ih (List.forall_mem_cons.mp hk).2⟩
  | case6 a b r ih => -- an equality that holds: a weak edge each way
    have h : a.eval ρ = b.eval ρ := by simpa [BTerm.eval] using hk _ List.mem_cons_self
    simpa [Edge.Holds, h] using ih (List.forall_mem_cons.mp hk).2
  | case7 kb r _ _ _ _ _ ih => -- anything else: no edge
    exact ih (List.forall_mem_cons.mp hk).2

theorem iEdges_valid (ρ : Rho K) (known : List (BTerm × Bool)) (hk : ∀ kb ∈ known, kb.1.eval ρ = kb.2) :
    ∀ e ∈ iEdges known, e.Holds (ITerm.eval ρ) := by
  fun_induction iEdges known with
  | case1 => simp
  | case2 a b r ih | case3 a b r ih | case4 a b r ih | case5 a b r ih => -- `<`, `≤` or a negation: one edge
    exact List.forall_mem_cons.mpr
      ⟨by simpa [Edge.Holds, BTerm.eval] using hk _ List.mem_cons_self, ih (List.forall_mem_cons.mp hk).2⟩
  | case6 a b r ih => -- an equality that holds: a weak edge each way
    have h : a.eval ρ = b.eval ρ := by simpa [BTerm.eval] using hk _ List.mem_cons_self
    simpa [Edge.Holds, h] using ih (List.forall_mem_cons.mp hk).2
  | case7 kb r _ _ _ _ _ ih => -- anything else: no edge
    exact ih (List.forall_mem_cons.mp hk).2
end

/-- an equality asked the other way round -/
def decideSym (known : List (BTerm × Bool)) : BTerm → Option Bool
  | .neq x y => Tree.lookupB (.neq y x) known
  | .ieq x y => Tree.lookupB (.ieq y x) known
  | _ => none

/-- decision by paths in the order graph of at most two edges: `a < b`, `b ≤ c` give `a < c`, a chain of
three comparisons is not followed -/
def decideGraph (known : List (BTerm × Bool)) (d : BTerm) : Option Bool :=
  let fuel := 2
  match d with
  | .nlt x y =>
    if reach (nEdges known) fuel x y true then some true
    else if reach (nEdges known) fuel y x false then some false else none
  | .nle x y =>
    if reach (nEdges known) fuel x y false then some true
    else if reach (nEdges known) fuel y x true then some false else none
  | .neq x y =>
    if reach (nEdges known) fuel x y true || reach (nEdges known) fuel y x true then some false
    else if reach (nEdges known) fuel x y false && reach (nEdges known) fuel y x false then some true else none
  | .ilt x y =>
    if reach (iEdges known) fuel x y true then some true
    else if reach (iEdges known) fuel y x false then some false else none
  | .ile x y =>
    if reach (iEdges known) fuel x y false then some true
    else if reach (iEdges known) fuel y x true then some false else none
  | .ieq x y =>
    if reach (iEdges known) fuel x y true || reach (iEdges known) fuel y x true then some false
    else if reach (iEdges known) fuel x y false && reach (iEdges known) fuel y x false then some true else none
  | _ => none

def decideO (known : List (BTerm × Bool)) (d : BTerm) : Option Bool :=
  match Tree.lookupB d known with
  | some b => some b
  | none =>
    match decideSym known d with
    | some b => some b
    | none => decideGraph known d

section
variable {K : Type} [LinearOrder K] [NumOpsC K]

theorem decideSym_sound (ρ : Rho K) (known : List (BTerm × Bool)) (d : BTerm) (b : Bool)
    (hk : ∀ kb ∈ known, kb.1.eval ρ = kb.2) (h : decideSym known d = some b) : d.eval ρ = b := by
  cases d <;> simp only [decideSym] at h <;> try (simp at h)
  · rename_i x y
    have := Tree.lookupB_sound (K := K) (by intro x; simp) ρ (.ieq y x) known b hk h
    simp only [BTerm.eval] at this ⊢
    rw [← this]
    simp only [decide_eq_decide]
    exact eq_comm
  · rename_i x y
    have := Tree.lookupB_sound (K := K) (by intro x; simp) ρ (.neq y x) known b hk h
    simp only [BTerm.eval, pyBeq_eq] at this ⊢
    rw [← this]
    simp only [decide_eq_decide]
    exact eq_comm

/- The three verdicts `decideGraph` reads off the graph (`x < y`, `x ≤ y`, `x = y`), for any term sort; the
hypothesis is the `if` of `decideGraph` as it stands. -/
private theorem reach_lt {T L : Type} [DecidableEq T] [LinearOrder L] (val : T → L) (es : List (Edge T))
    (hv : ∀ e ∈ es, e.Holds val) (n : Nat) (x y : T) (b : Bool)
    (h : (if reach es n x y true then some true else if reach es n y x false then some false else none) = some b) :
    decide (val x < val y) = b := by
  split at h
  · next hr => cases h; exact decide_eq_true (by simpa using reach_sound val es hv n x y true hr)
  · split at h
    · next hr => cases h; exact decide_eq_false (not_lt.mpr (by simpa using reach_sound val es hv n y x false hr))
    · cases h

private theorem reach_le {T L : Type} [DecidableEq T] [LinearOrder L] (val : T → L) (es : List (Edge T))
    (hv : ∀ e ∈ es, e.Holds val) (n : Nat) (x y : T) (b : Bool)
    (h : (if reach es n x y false then some true else if reach es n y x true then some false else none) = some b) :
    decide (val x ≤ val y) = b := by
  split at h
  · next hr => cases h; exact decide_eq_true (by simpa using reach_sound val es hv n x y false hr)
  · split at h
    · next hr => cases h; exact decide_eq_false (not_le.mpr (by simpa using reach_sound val es hv n y x true hr))
    · cases h

private theorem reach_eq {T L : Type} [DecidableEq T] [LinearOrder L] (val : T → L) (es : List (Edge T))
    (hv : ∀ e ∈ es, e.Holds val) (n : Nat) (x y : T) (b : Bool)
    (h : (if reach es n x y true || reach es n y x true then some false
          else if reach es n x y false && reach es n y x false then some true else none) = some b) :
    decide (val x = val y) = b := by
  split at h
  · next hr =>
    cases h
    rcases Bool.or_eq_true _ _ ▸ hr with hr | hr
    · exact decide_eq_false (ne_of_lt (by simpa using reach_sound val es hv n x y true hr))
    · exact decide_eq_false (ne_of_gt (by simpa using reach_sound val es hv n y x true hr))
  · split at h
    · next hr =>
      cases h
      have hr := Bool.and_eq_true _ _ ▸ hr
      exact decide_eq_true (le_antisymm (by simpa using reach_sound val es hv n x y false hr.1)
        (by simpa using reach_sound val es hv n y x false hr.2))
    · cases h

theorem decideGraph_sound (ρ : Rho K) (known : List (BTerm × Bool)) (d : BTerm) (b : Bool)
    (hk : ∀ kb ∈ known, kb.1.eval ρ = kb.2) (h : decideGraph known d = some b) : d.eval ρ = b := by
  have hn := nEdges_valid ρ known hk
  have hi := iEdges_valid ρ known hk
  cases d <;> simp only [decideGraph, reduceCtorEq] at h
  · exact reach_lt (ITerm.eval ρ) _ hi _ _ _ b h
  · exact reach_le (ITerm.eval ρ) _ hi _ _ _ b h
  · exact reach_eq (ITerm.eval ρ) _ hi _ _ _ b h
  · exact reach_lt (NTerm.eval ρ) _ hn _ _ _ b h
  · exact reach_le (NTerm.eval ρ) _ hn _ _ _ b h
  · simpa [BTerm.eval] using reach_eq (NTerm.eval ρ) _ hn _ _ _ b h

theorem decideO_sound (ρ : Rho K) (known : List (BTerm × Bool)) (d : BTerm) (b : Bool)
    (hk : ∀ kb ∈ known, kb.1.eval ρ = kb.2) (h : decideO known d = some b) : d.eval ρ = b := by
  unfold decideO at h
  split at h
  · rename_i b' hb
    simp only [Option.some.injEq] at h
    subst h
    exact Tree.lookupB_sound (by intro x; simp) ρ d known b' hk hb
  · split at h
    · rename_i b' hb
      simp only [Option.some.injEq] at h
      subst h
      exact decideSym_sound ρ known d b' hk hb
    · exact decideGraph_sound ρ known d b hk h

def obsPathsOG (g : Except Err (Val × St) → Obs) (env : Env) (fuel : Nat) (fn : String) (args : List Val)
    (st : St) : List (List (BTerm × Bool) × Obs) :=
  ((run env fuel fn args st).map g).pathsD decideO []

/-- pruning by `decideO` under *assumptions*: conditions known to hold of the state the run starts in (the book is
sorted, volumes are positive, ids are distinct, …) are given to the pruner as already decided -/
def obsPathsAG (assume : List (BTerm × Bool)) (g : Except Err (Val × St) → Obs) (env : Env) (fuel : Nat)
    (fn : String) (args : List Val) (st : St) : List (List (BTerm × Bool) × Obs) :=
  ((run env fuel fn args st).map g).pathsD decideO assume

theorem resultG_of_pathsA (assume : List (BTerm × Bool)) (g : Except Err (Val × St) → Obs) (ρ : Rho K) (env : Env)
    (fuel : Nat) (fn : String) (args : List Val) (st : St) (Q : CObs K → Prop)
    (hass : ∀ kb ∈ assume, kb.1.eval ρ = kb.2)
    (h : ∀ p ∈ obsPathsAG assume g env fuel fn args st, (∀ cb ∈ p.1, cb.1.eval ρ = cb.2) → Q (p.2.eval ρ)) :
    Q (resultG g ρ env fuel fn args st) := by
  rw [resultG_eq_denote]
  exact Tree.denote_of_pathsD ρ decideO (fun known d b hk hb => decideO_sound ρ known d b hk hb)
    (fun (o : Obs) => Q (o.eval ρ)) _ assume hass h

theorem resultG_eq_of_pathsA (assume : List (BTerm × Bool)) (g : Except Err (Val × St) → Obs) (ρ : Rho K)
    (env : Env) (fuel : Nat) (fn : String) (args : List Val) (st : St) (c : CObs K)
    (hass : ∀ kb ∈ assume, kb.1.eval ρ = kb.2)
    (h : ∀ p ∈ obsPathsAG assume g env fuel fn args st, (∀ cb ∈ p.1, cb.1.eval ρ = cb.2) → p.2.eval ρ = c) :
    resultG g ρ env fuel fn args st = c :=
  resultG_of_pathsA assume g ρ env fuel fn args st (fun r => r = c) hass h

theorem resultG_eq_of_pathsO (g : Except Err (Val × St) → Obs) (ρ : Rho K) (env : Env)
    (fuel : Nat) (fn : String) (args : List Val) (st : St) (c : CObs K)
    (h : ∀ p ∈ obsPathsOG g env fuel fn args st, (∀ cb ∈ p.1, cb.1.eval ρ = cb.2) → p.2.eval ρ = c) :
    resultG g ρ env fuel fn args st = c :=
  resultG_eq_of_pathsA [] g ρ env fuel fn args st c (by simp) h
end

end Pams.Py
