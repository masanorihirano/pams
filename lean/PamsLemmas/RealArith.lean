/-
The arithmetic signature with `exp` / `log` (`ArithT`, PamsModel/Agents.lean) read at ℝ: the instance
the agent formulas and the fundamentals are proved at.
-/
import PamsModel.Agents
import Mathlib.Analysis.SpecialFunctions.Log.Basic

namespace Pams.C20
open Pams

noncomputable instance realArith : ArithT ℝ where
  zero := 0
  one := 1
  ofNat := fun n => (n : ℝ)
  decLt := fun a b => Classical.propDecidable _
  decLe := fun a b => Classical.propDecidable _
  exp := Real.exp
  log := Real.log

@[simp] theorem r_one : (Arith.one : ℝ) = 1 := rfl
@[simp] theorem r_zero : (Arith.zero : ℝ) = 0 := rfl
@[simp] theorem r_ofNat (n : Nat) : (Arith.ofNat n : ℝ) = (n : ℝ) := rfl
@[simp] theorem r_exp (x : ℝ) : (ArithT.exp x : ℝ) = Real.exp x := rfl
@[simp] theorem r_log (x : ℝ) : (ArithT.log x : ℝ) = Real.log x := rfl

end Pams.C20
