import PamsModel.Runner

namespace Pams.Runner

def Ev.isExec : Ev → Bool
  | .execution _ => true
  | _ => false

def Ev.isCall : Ev → Bool
  | .addOrder _ _ => true | .cancel _ _ => true | .execution _ => true
  | _ => false

def Ev.isConsult : Ev → Bool
  | .consult _ _ => true
  | _ => false

def Ev.isCallback : Ev → Bool
  | .cbSubmitted _ _ => true | .cbCanceled _ _ => true | .cbExecuted _ _ => true
  | _ => false

def Ev.isTick : Ev → Bool
  | .tick _ => true
  | _ => false

def Ev.isLedger : Ev → Bool
  | .ledger _ => true
  | _ => false

/-- events of the step frame (hooks, step records, clock) -/
def Ev.isFrame : Ev → Bool
  | .hookStepBefore _ _ => true | .stepBegin _ _ => true | .stepEnd _ _ => true
  | .hookStepAfter _ _ => true | .tick _ => true
  | _ => false

theorem stepBefore_frame {t : Nat} {resume : Nat → Bool} {ms : Markets} {flag : Bool} :
    ∀ e ∈ (stepBefore t resume ms flag).1, e.isFrame = true := by
  induction ms generalizing flag with
  | nil => simp [stepBefore]
  | cons m ms ih => exact List.forall_mem_cons.mpr ⟨rfl, List.forall_mem_cons.mpr ⟨rfl, ih⟩⟩

theorem stepAfter_frame {t : Nat} {ms : Markets} : ∀ e ∈ stepAfter t ms, e.isFrame = true := by
  induction ms with
  | nil => simp [stepAfter]
  | cons m ms ih => exact List.forall_mem_cons.mpr ⟨rfl, List.forall_mem_cons.mpr ⟨rfl, ih⟩⟩

theorem ticks_frame {ms : Markets} : ∀ e ∈ ticks ms, e.isFrame = true := by
  intro e he
  simp only [ticks, List.mem_append, List.mem_map] at he
  rcases he with ⟨_, _, rfl⟩ | ⟨_, _, rfl⟩ <;> rfl

theorem frame_not_other {e : Ev} (h : e.isFrame = true) :
    e.isCall = false ∧ e.isConsult = false ∧ e.isCallback = false ∧ e.isExec = false ∧
    e.isLedger = false := by
  cases e <;> simp [Ev.isFrame] at h <;> simp [Ev.isCall, Ev.isConsult, Ev.isCallback, Ev.isExec, Ev.isLedger]

theorem stepBefore_flag (t : Nat) (resume : Nat → Bool) (ms : Markets) (flag : Bool) :
    (stepBefore t resume ms flag).2 = (flag || ms.any (fun m => resume m.1)) := by
  induction ms generalizing flag with
  | nil => simp [stepBefore]
  | cons m ms ih =>
    simp only [stepBefore, List.any_cons]
    rw [ih]
    cases flag <;> cases resume m.1 <;> simp

theorem fillEvents_all {p : Ev → Prop} {t : Nat} {fs : List RFill}
    (h : ∀ f ∈ fs, p (.cbExecuted f.buyer f.ref) ∧ p (.cbExecuted f.seller f.ref) ∧
      p (.hookExecAfter f.ref t)) : ∀ e ∈ fillEvents t fs, p e := by
  induction fs with
  | nil => simp [fillEvents]
  | cons f fs ih =>
    obtain ⟨⟨h1, h2, h3⟩, hfs⟩ := List.forall_mem_cons.mp h
    exact List.forall_mem_cons.mpr ⟨h1, List.forall_mem_cons.mpr ⟨h2, List.forall_mem_cons.mpr ⟨h3, ih hfs⟩⟩⟩

/-- the events of a request itself: before-hook, market call, owner's callback, after-hook -/
def ownEvents (t : Nat) (r : Request) : List Ev :=
  if r.isCancel then [.hookCancelBefore r.ref t, .cancel r.market r.ref,
                      .cbCanceled r.owner r.ref, .hookCancelAfter r.ref t]
  else [.hookOrderBefore r.ref t, .addOrder r.market r.ref,
        .cbSubmitted r.owner r.ref, .hookOrderAfter r.ref t]

theorem ownEvents_all {p : Ev → Prop} {t : Nat} {r : Request}
    (hc : r.isCancel = true → p (.hookCancelBefore r.ref t) ∧ p (.cancel r.market r.ref) ∧
      p (.cbCanceled r.owner r.ref) ∧ p (.hookCancelAfter r.ref t))
    (ho : r.isCancel = false → p (.hookOrderBefore r.ref t) ∧ p (.addOrder r.market r.ref) ∧
      p (.cbSubmitted r.owner r.ref) ∧ p (.hookOrderAfter r.ref t)) :
    ∀ e ∈ ownEvents t r, p e := by
  unfold ownEvents
  cases h : r.isCancel
  · simpa using ho h
  · simpa using hc h

/-- the trace of a request: a refused one stops after the market call -/
theorem processRequest_tr (t : Nat) (flag : Bool) (r : Request) :
    (processRequest t flag r).tr =
      if r.accepted then
        ownEvents t r ++
          if flag then
            .execution r.market :: match r.fills with
              | none => [.abort]
              | some fs => .ledger (fs.map (·.ref)) :: fillEvents t fs
          else []
      else (ownEvents t r).take 2 ++ [.abort] := by
  unfold processRequest ownEvents
  cases r.isCancel <;> cases r.accepted <;> cases flag <;> cases r.fills <;> rfl

theorem processRequest_all {p : Ev → Prop} {t : Nat} {flag : Bool} {r : Request}
    (hown : ∀ e ∈ ownEvents t r, p e) (hab : p .abort)
    (hround : flag = true → p (.execution r.market) ∧
      ∀ fs, r.fills = some fs → p (.ledger (fs.map (·.ref))) ∧ ∀ e ∈ fillEvents t fs, p e) :
    ∀ e ∈ (processRequest t flag r).tr, p e := by
  have hab' : ∀ e ∈ [Ev.abort], p e := by simpa using hab
  rw [processRequest_tr]
  split
  · refine List.forall_mem_append.mpr ⟨hown, ?_⟩
    split
    next hf =>
      obtain ⟨hx, hfs⟩ := hround hf
      refine List.forall_mem_cons.mpr ⟨hx, ?_⟩
      split
      · exact hab'
      next fs h => exact List.forall_mem_cons.mpr (hfs fs h)
    · nofun
  · exact List.forall_mem_append.mpr ⟨fun e he => hown e (List.mem_of_mem_take he), hab'⟩

theorem processRequest_round {t : Nat} {r : Request} {fs : List RFill}
    (ha : r.accepted = true) (hf : r.fills = some fs) :
    (processRequest t true r).tr =
      ownEvents t r ++ [.execution r.market, .ledger (fs.map (·.ref))] ++ fillEvents t fs := by
  rw [processRequest_tr, if_pos ha, if_pos rfl, hf, List.append_assoc]
  rfl

theorem processRequest_flag_off (t : Nat) (r : Request) :
    (∀ e ∈ (processRequest t false r).tr, e.isExec = false) ∧ (processRequest t false r).flag = false := by
  refine ⟨processRequest_all (ownEvents_all (fun _ => ⟨rfl, rfl, rfl, rfl⟩)
    fun _ => ⟨rfl, rfl, rfl, rfl⟩) rfl nofun, ?_⟩
  unfold processRequest
  cases r.accepted <;> rfl

theorem andThen_eq_of_ok {a : Out} (h : a.ok = true) (f : Bool → Out) :
    a.andThen f = { tr := a.tr ++ (f a.flag).tr, ok := (f a.flag).ok, flag := (f a.flag).flag } := by
  simp [Out.andThen, h]

theorem Out.andThen_ok (a : Out) (f : Bool → Out) : (a.andThen f).ok = (a.ok && (f a.flag).ok) := by
  unfold Out.andThen
  split <;> simp [*]

/-- the middle part of a step (between the step-begin and step-end frames) -/
def stepBody (cfg : SessionCfg) (t : Nat) (flag : Bool) (tape : StepTape) : Out :=
  if cfg.placement then
    let c := collect false cfg.maxNormal tape.answer tape.perm 0
    if c.2.1 then
      let h := handle t cfg.maxHft (applyShuffle tape.shuffle c.2.2) tape.rounds flag
      { h with tr := c.1 ++ h.tr }
    else { tr := c.1, ok := false, flag := flag }
  else { tr := [], ok := true, flag := flag }

theorem runStep_eq (ms : Markets) (cfg : SessionCfg) (t : Nat) (flag : Bool) (tape : StepTape) :
    runStep ms cfg t flag tape =
      (let b := stepBefore t tape.resume ms flag
       let body := stepBody cfg t b.2 tape
       if body.ok then
         { tr := b.1 ++ body.tr ++ stepAfter t ms ++ ticks ms, ok := true, flag := body.flag }
       else { tr := b.1 ++ body.tr, ok := false, flag := body.flag }) := rfl

/-- The shape of most facts about the scheduler's trace: `p` holds of every event, and `q` is an
invariant of the execution flag — every `_sat` lemma assumes `q` of the flag going in, and `Sat` gives
`q` of the flag coming out.  What holds in this sense of every request, of consultations and of the
abort holds of everything built from them (`processBatch_sat` … `stepBody_sat`). -/
def Out.Sat (p : Ev → Prop) (q : Bool → Prop) (o : Out) : Prop :=
  (∀ e ∈ o.tr, p e) ∧ q o.flag

section Sat
variable {p : Ev → Prop} {q : Bool → Prop}

theorem Out.Sat.andThen {a : Out} {f : Bool → Out} (ha : a.Sat p q)
    (hf : ∀ {fl}, q fl → (f fl).Sat p q) : (a.andThen f).Sat p q := by
  unfold Out.andThen
  split
  · exact ⟨List.forall_mem_append.mpr ⟨ha.1, (hf ha.2).1⟩, (hf ha.2).2⟩
  · exact ha

theorem Out.Sat.cons {e : Ev} {o : Out} (he : p e) (ho : o.Sat p q) :
    Out.Sat p q { o with tr := e :: o.tr } :=
  ⟨List.forall_mem_cons.mpr ⟨he, ho.1⟩, ho.2⟩

theorem Out.Sat.append {l : List Ev} {o : Out} (hl : ∀ e ∈ l, p e) (ho : o.Sat p q) :
    Out.Sat p q { o with tr := l ++ o.tr } :=
  ⟨List.forall_mem_append.mpr ⟨hl, ho.1⟩, ho.2⟩

theorem collect_all {hft : Bool} (hc : ∀ a, p (.consult a hft)) (ha : p .abort) {cap : Int}
    {answer : Nat → List Request} {as : List Nat} {n : Nat} :
    ∀ e ∈ (collect hft cap answer as n).1, p e := by
  fun_induction collect hft cap answer as n with
  | case1 | case2 => simp
  | case3 a as n h1 batch h2 r ih | case5 a as n h1 batch h2 h3 r ih =>
    exact List.forall_mem_cons.mpr ⟨hc a, ih⟩
  | case4 => simp [hc, ha]

variable {t : Nat} (hreq : ∀ fl r, q fl → (processRequest t fl r).Sat p q)
include hreq

theorem processBatch_sat : ∀ {rs flag}, q flag → (processBatch t flag rs).Sat p q
  | [], _, hq => ⟨by simp [processBatch], hq⟩
  | r :: _, flag, hq => (hreq flag r hq).andThen processBatch_sat

variable (hc : ∀ a hft, p (.consult a hft)) (ha : p .abort)
include hc ha

theorem hftRound_sat {cap : Int} {answer : Nat → List Request} {as : List Nat} {n : Nat} {flag : Bool}
    (hq : q flag) : (hftRound t cap answer as n flag).Sat p q := by
  fun_induction hftRound t cap answer as n flag with
  | case1 | case2 => exact ⟨by simp, hq⟩
  | case3 a as n flag h1 batch h2 r ih => exact (ih hq).cons (hc a true)
  | case4 => exact ⟨by simp [hc, ha], hq⟩
  | case5 a as n flag h1 batch h2 h3 b r ih =>
    exact ((processBatch_sat hreq hq).andThen (ih _)).cons (hc a true)

theorem handle_sat {maxHft : Int} {bs : List (Nat × List Request)} {rts : List RoundTape} {flag : Bool}
    (hq : q flag) : (handle t maxHft bs rts flag).Sat p q := by
  induction bs generalizing rts flag with
  | nil => exact ⟨by simp [handle], hq⟩
  | cons b bs ih =>
    refine (processBatch_sat hreq hq).andThen fun hfl => Out.Sat.andThen ?_ ih
    split
    · exact hftRound_sat hreq hc ha hfl
    · exact ⟨by simp, hfl⟩

theorem stepBody_sat {cfg : SessionCfg} {tape : StepTape} {flag : Bool} (hq : q flag) :
    (stepBody cfg t flag tape).Sat p q := by
  unfold stepBody
  split
  · dsimp only
    split
    · exact (handle_sat hreq hc ha hq).append (collect_all (hc · false) ha)
    · exact ⟨collect_all (hc · false) ha, hq⟩
  · exact ⟨by simp, hq⟩

end Sat

theorem runStep_sat {p : Ev → Prop} {q : Bool → Prop} {ms : Markets} {cfg : SessionCfg} {t : Nat}
    {flag : Bool} {tape : StepTape} (hfr : ∀ e, e.isFrame = true → p e)
    (hb : (stepBody cfg t (stepBefore t tape.resume ms flag).2 tape).Sat p q) :
    (runStep ms cfg t flag tape).Sat p q := by
  have hfr' {l : List Ev} (h : ∀ e ∈ l, e.isFrame = true) : ∀ e ∈ l, p e := fun e he => hfr e (h e he)
  rw [runStep_eq]
  dsimp only
  split
  · refine ⟨?_, hb.2⟩
    simp only [List.forall_mem_append]
    exact ⟨⟨⟨hfr' stepBefore_frame, hb.1⟩, hfr' stepAfter_frame⟩, hfr' ticks_frame⟩
  · exact ⟨List.forall_mem_append.mpr ⟨hfr' stepBefore_frame, hb.1⟩, hb.2⟩

/-- C09: in a step that starts with the flag off and in which no before-step handler resumes,
no matching round is requested, and the flag is still off afterwards -/
theorem runStep_flag_off {ms : Markets} {cfg : SessionCfg} {t : Nat} {tape : StepTape}
    (hres : ∀ m ∈ ms, tape.resume m.1 = false) :
    (∀ e ∈ (runStep ms cfg t false tape).tr, e.isExec = false) ∧
    (runStep ms cfg t false tape).flag = false :=
  runStep_sat (fun e h => (frame_not_other h).2.2.2.1)
    (stepBody_sat (p := (·.isExec = false)) (q := (· = false))
      (fun _ r h => h ▸ processRequest_flag_off t r) (fun _ _ => rfl) rfl
      (by simpa [stepBefore_flag] using hres))

theorem runSession_eq (ms : Markets) (k : Nat) (cfg : SessionCfg) (start : Nat) (tapes : List StepTape) :
    runSession ms k cfg start tapes =
      (let body := runSteps ms cfg start cfg.execution tapes cfg.steps
       { tr := [Ev.hookSessionBefore k start, Ev.sessionBegin k, Ev.flush] ++
           ms.map (fun m => Ev.setRunning m.1 cfg.execution) ++ body.tr ++
           (if body.ok then
              [Ev.hookSessionAfter k (((start + cfg.steps : Nat) : Int) - 1), Ev.sessionEnd k, Ev.flush]
            else []),
         ok := body.ok, flag := body.flag }) := by
  unfold runSession
  dsimp only
  split <;> simp [*]

def consulted : List Ev → List Nat
  | [] => []
  | .consult a _ :: es => a :: consulted es
  | _ :: es => consulted es

theorem consulted_append (a b : List Ev) : consulted (a ++ b) = consulted a ++ consulted b := by
  induction a with
  | nil => rfl
  | cons e es ih =>
    cases e with
    | consult a _ => exact congrArg (a :: ·) ih
    | _ => exact ih

/-- C09: the agents consulted are a prefix of the drawn permutation (so each at most once when
the permutation has no repetition), the number of collected non-empty batches never exceeds what
the cap leaves (`cap - n`), nobody is consulted when the cap is already reached, and a collection
that is not aborted ends only at the end of the permutation or with the cap reached. -/
theorem collect_spec (hft : Bool) (cap : Int) (answer : Nat → List Request) (as : List Nat) (n : Nat) :
    let r := collect hft cap answer as n
    (∃ k, consulted r.1 = as.take k ∧
      (r.2.1 = true → (k = as.length ∨ (n + r.2.2.length : Int) ≥ cap))) ∧
    ((n : Int) ≥ cap → r.1 = [] ∧ r.2.2 = []) ∧
    ((n : Int) ≤ cap → (n + r.2.2.length : Int) ≤ cap) ∧
    (∀ b ∈ r.2.2, b.1 ∈ as ∧ b.2 = answer b.1 ∧ b.2 ≠ [] ∧ ∀ q ∈ b.2, q.owner = b.1) := by
  fun_induction collect hft cap answer as n with
  | case1 => exact ⟨⟨0, rfl, fun _ => .inl rfl⟩, fun _ => ⟨rfl, rfl⟩, by simp, by simp⟩
  | case2 a as n h1 => -- the cap is reached
    exact ⟨⟨0, rfl, fun _ => .inr (by simpa using h1)⟩, fun _ => ⟨rfl, rfl⟩, by simp, by simp⟩
  | case3 a as n h1 batch h2 r ih => -- `a` answers nothing
    dsimp only [r]
    obtain ⟨⟨k, hk1, hk2⟩, -, h3, h4⟩ := ih
    exact ⟨⟨k + 1, by simp [consulted, hk1], fun hok => (hk2 hok).imp (by simp) id⟩,
      fun h => absurd h h1, h3, fun b hb => (h4 b hb).imp_left (List.mem_cons_of_mem _)⟩
  | case4 a as n h1 batch h2 h3 => -- `a` submits for another agent: abort
    exact ⟨⟨1, by simp [consulted], nofun⟩, fun h => absurd h h1, by simp, by simp⟩
  | case5 a as n h1 batch h2 h3 r ih => -- the batch of `a` is collected
    dsimp only [r]
    obtain ⟨⟨k, hk1, hk2⟩, -, h5, h6⟩ := ih
    have h5 := h5 (by omega)
    simp only [List.length_cons]
    refine ⟨⟨k + 1, by simp [consulted, hk1], fun hok => (hk2 hok).imp (by simp) (by omega)⟩,
      fun h => absurd h h1, by omega, ?_⟩
    intro b hb
    rcases List.mem_cons.mp hb with rfl | hb
    · exact ⟨List.mem_cons_self, rfl, by simpa using h2, by simpa using h3⟩
    · exact (h6 b hb).imp_left (List.mem_cons_of_mem _)

theorem processRequest_not_frame {t : Nat} {flag : Bool} {r : Request} :
    ∀ e ∈ (processRequest t flag r).tr, e.isFrame = false :=
  processRequest_all (ownEvents_all (fun _ => ⟨rfl, rfl, rfl, rfl⟩) fun _ => ⟨rfl, rfl, rfl, rfl⟩)
    rfl fun _ => ⟨rfl, fun _ _ => ⟨rfl, fillEvents_all fun _ _ => ⟨rfl, rfl, rfl⟩⟩⟩

theorem stepBody_not_frame (cfg : SessionCfg) (t : Nat) (flag : Bool) (tape : StepTape) :
    ∀ e ∈ (stepBody cfg t flag tape).tr, e.isFrame = false :=
  (stepBody_sat (q := fun _ => True) (fun _ _ _ => ⟨processRequest_not_frame, trivial⟩)
    (fun _ _ => rfl) rfl trivial).1

end Pams.Runner
