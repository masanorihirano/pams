/-
The scheduler of the closed-loop model is glue around three kinds of primitive action: the
treatment of one request, the before-step hooks and the clock step of all markets (and the switch
writes at the head of a session).  The glue is `SOut.andThen` and the emission of events that
belong to no request.  A relation between the state and flag before a piece of the scheduler and
the piece's result that this glue preserves (`Glue`) holds of every scheduler function as soon as
it holds of the primitives; the induction over the scheduler is done here, once.  For a relation
that reads the trace, the fill counter and the records only, the primitives other than the
treatment of a request are of one kind (`SOut.Frame`, `Glue.run_of_frame`).
-/
import PamsModel.Sim

namespace Pams.Sim
open Pams Pams.Runner

variable {P : Type}

/-- events of the scheduler's own frame: everything that is not part of the treatment of a request
(more than `Runner.Ev.isFrame`, the frame of one step: also the session and simulation brackets, and
`consult` and `abort` of the step body) -/
def Ev.isGlue : Ev → Bool
  | .simBegin => true | .simEnd => true | .flush => true
  | .sessionBegin _ => true | .sessionEnd _ => true
  | .hookSessionBefore _ _ => true | .hookSessionAfter _ _ => true
  | .setRunning _ _ => true
  | .hookStepBefore _ _ => true | .stepBegin _ _ => true | .stepEnd _ _ => true | .hookStepAfter _ _ => true
  | .consult _ _ => true | .tick _ => true | .abort => true
  | _ => false

def GlueTr (l : List Ev) : Prop := ∀ e ∈ l, Ev.isGlue e = true

theorem GlueTr.append {a b : List Ev} (ha : GlueTr a) (hb : GlueTr b) : GlueTr (a ++ b) :=
  fun e he => (List.mem_append.mp he).elim (ha e) (hb e)

theorem GlueTr.cons {e : Ev} {l : List Ev} (he : Ev.isGlue e = true) (hl : GlueTr l) : GlueTr (e :: l) :=
  fun x hx => (List.mem_cons.mp hx).elim (fun h => h ▸ he) (hl x)

theorem GlueTr.nil : GlueTr [] := List.forall_mem_nil _

theorem GlueTr.map {α : Type} {f : α → Ev} {l : List α} (h : ∀ x, Ev.isGlue (f x) = true) :
    GlueTr (l.map f) := by
  intro e he
  obtain ⟨x, _, rfl⟩ := List.mem_map.mp he
  exact h x

theorem stepBefore_glueTr {t : Nat} {resume : Nat → StepFx P} {ms : Markets} {f : Nat → Market P} {flag : Bool} :
    GlueTr (stepBefore t resume ms f flag).1 := by
  induction ms generalizing f flag with
  | nil => exact .nil
  | cons m ms ih => exact .cons rfl (.cons rfl ih)

theorem stepAfter_glueTr {t : Nat} {ms : Markets} : GlueTr (stepAfter t ms) := by
  induction ms with
  | nil => exact .nil
  | cons m ms ih => exact .cons rfl (.cons rfl ih)

theorem ticks_glueTr {ms : Markets} : GlueTr (ticks ms) :=
  .append (.map fun _ => rfl) (.map fun _ => rfl)

theorem collect_glueTr (hft : Bool) (cap : Int) (answer : Nat → List (SReq P)) (as : List Nat) (n : Nat) :
    GlueTr (collect hft cap answer as n).1 ∧ ∀ b ∈ (collect hft cap answer as n).2.2, b.2 = answer b.1 := by
  induction as generalizing n with
  | nil => exact ⟨.nil, List.forall_mem_nil _⟩
  | cons a as ih =>
    unfold collect
    split
    · exact ⟨.nil, List.forall_mem_nil _⟩
    · simp only
      split
      · exact ⟨.cons rfl (ih n).1, (ih n).2⟩
      · split
        · exact ⟨.cons rfl (.cons rfl .nil), List.forall_mem_nil _⟩
        · exact ⟨.cons rfl (ih (n + 1)).1, List.forall_mem_cons.mpr ⟨rfl, (ih (n + 1)).2⟩⟩

theorem applyShuffle_mem {α : Type} (idx : List Nat) (l : List α) : ∀ x ∈ applyShuffle idx l, x ∈ l := by
  intro x hx
  obtain ⟨i, _, hi⟩ := List.mem_filterMap.mp hx
  exact List.mem_of_getElem? hi

theorem headD_of_forall {α : Type} {p : α → Prop} {d : α} {l : List α} (hd : p d) (h : ∀ x ∈ l, p x) :
    p (l.headD d) := by
  cases l with
  | nil => exact hd
  | cons x l => exact h x (by simp)

def SOut.emit (s : State P) (flag : Bool) (l : List Ev) (ok : Bool) : SOut P :=
  { st := s, out := { tr := l, ok := ok, flag := flag }, recs := [], ops := [] }

theorem andThen_ok (a : SOut P) (f : State P → Bool → SOut P) :
    (a.andThen f).out.ok = (a.out.ok && (f a.st a.out.flag).out.ok) := by
  unfold SOut.andThen
  split <;> simp [*]

theorem SOut.prependTr_eq (s : State P) (flag : Bool) (a : SOut P) (l : List Ev) :
    a.prependTr l = (SOut.emit s flag l true).andThen (fun _ _ => a) := rfl

/-- `R s flag a`: the piece of the scheduler that started in state `s` with execution flag `flag`
and returned `a` is as it should be.  Such a relation is preserved by the glue when it holds of
pieces that only emit glue events and of one piece followed by another. -/
structure Glue (R : State P → Bool → SOut P → Prop) : Prop where
  emit : ∀ s flag l ok, GlueTr l → R s flag (SOut.emit s flag l ok)
  seq : ∀ {s flag a b}, R s flag a → R a.st a.out.flag b →
    R s flag { st := b.st, out := { tr := a.out.tr ++ b.out.tr, ok := b.out.ok, flag := b.out.flag },
               recs := a.recs ++ b.recs, ops := a.ops ++ b.ops }

namespace Glue

variable {R : State P → Bool → SOut P → Prop} (G : Glue R)
include G

theorem andThen {s : State P} {flag : Bool} {a : SOut P} {f : State P → Bool → SOut P} (ha : R s flag a)
    (hf : R a.st a.out.flag (f a.st a.out.flag)) : R s flag (a.andThen f) := by
  unfold SOut.andThen
  split
  · exact G.seq ha hf
  · exact ha

theorem pure (s : State P) (flag : Bool) : R s flag (SOut.pure s flag) := G.emit s flag [] true .nil

theorem prependTr {s : State P} {flag : Bool} {a : SOut P} {l : List Ev} (hl : GlueTr l) (ha : R s flag a) :
    R s flag (a.prependTr l) :=
  SOut.prependTr_eq s flag a l ▸ G.andThen (G.emit s flag l true hl) ha

theorem consTr {s : State P} {flag : Bool} {a : SOut P} {e : Ev} (he : Ev.isGlue e = true) (ha : R s flag a) :
    R s flag (a.consTr e) :=
  G.prependTr (.cons he .nil) ha

end Glue

/-! ### the pieces of the scheduler that are not written with `andThen` in the model -/

def stepBeforeOut (t : Nat) (resume : Nat → StepFx P) (ms : Markets) (s : State P) (flag : Bool) : SOut P :=
  let b := stepBefore t resume ms s.mkt flag
  { st := { s with mkt := b.2.1 }, out := { tr := b.1, ok := true, flag := b.2.2.1 }, recs := [], ops := b.2.2.2 }

def stepAfterOut (po : Nat → PriceOps P) (t : Nat) (ms : Markets) (fund : Nat → Option P) (s : State P)
    (flag : Bool) : SOut P :=
  let tk := tickAll po fund (tickOrder ms) s.mkt
  { st := { s with mkt := tk.1 }, out := { tr := stepAfter t ms ++ ticks ms, ok := true, flag := flag },
    recs := tk.2.1, ops := tk.2.2 }

def sessionHead (ms : Markets) (k : Nat) (cfg : SessionCfg) (start : Nat) (s : State P) : SOut P :=
  { st := { s with mkt := setRunnings s.mkt (ms.map (fun m => (m.1, cfg.execution))) },
    out := { tr := [Ev.hookSessionBefore k start, Ev.sessionBegin k, Ev.flush]
                ++ ms.map (fun m => Ev.setRunning m.1 cfg.execution),
             ok := true, flag := cfg.execution },
    recs := [], ops := (ms.map (fun m => (m.1, cfg.execution))).map (fun x => (x.1, Op.setRunning x.2)) }

@[simp] theorem stepBeforeOut_ok (t : Nat) (resume : Nat → StepFx P) (ms : Markets) (s : State P) (flag : Bool) :
    (stepBeforeOut t resume ms s flag).out.ok = true := rfl

@[simp] theorem stepAfterOut_ok (po : Nat → PriceOps P) (t : Nat) (ms : Markets) (fund : Nat → Option P)
    (s : State P) (flag : Bool) : (stepAfterOut po t ms fund s flag).out.ok = true := rfl

/-- a piece that treats no request: it emits glue events only, leaves the fill counter alone and
writes at most expiry records -/
structure SOut.Frame (s : State P) (a : SOut P) : Prop where
  tr : GlueTr a.out.tr
  nfill : a.st.nfill = s.nfill
  recs : ∀ x ∈ a.recs, ∃ l, x.2 = Rec.expiry l

theorem emit_frame {s : State P} {flag : Bool} {l : List Ev} {ok : Bool} (hl : GlueTr l) :
    (SOut.emit s flag l ok).Frame s :=
  ⟨hl, rfl, List.forall_mem_nil _⟩

theorem stepBeforeOut_frame {t : Nat} {resume : Nat → StepFx P} {ms : Markets} {s : State P} {flag : Bool} :
    (stepBeforeOut t resume ms s flag).Frame s :=
  ⟨stepBefore_glueTr, rfl, List.forall_mem_nil _⟩

theorem sessionHead_frame {ms : Markets} {k : Nat} {cfg : SessionCfg} {start : Nat} {s : State P} :
    (sessionHead ms k cfg start s).Frame s :=
  ⟨.append (.cons rfl (.cons rfl (.cons rfl .nil))) (.map fun _ => rfl), rfl, List.forall_mem_nil _⟩

theorem tickAll_recs {po : Nat → PriceOps P} {fund : Nat → Option P} {ms : List Nat} {f : Nat → Market P} :
    ∀ x ∈ (tickAll po fund ms f).2.1, ∃ l, x.2 = Rec.expiry l := by
  induction ms generalizing f with
  | nil => exact List.forall_mem_nil _
  | cons m ms ih =>
    unfold tickAll
    simp only [List.forall_mem_append, List.forall_mem_map]
    exact ⟨fun l _ => ⟨l, rfl⟩, ih⟩

theorem stepAfterOut_frame {po : Nat → PriceOps P} {t : Nat} {ms : Markets} {fund : Nat → Option P} {s : State P}
    {flag : Bool} : (stepAfterOut po t ms fund s flag).Frame s :=
  ⟨.append stepAfter_glueTr ticks_glueTr, rfl, tickAll_recs⟩

variable [LinearOrder P]

theorem runStep_eq (po : Nat → PriceOps P) (ms : Markets) (cfg : SessionCfg) (t : Nat) (s : State P)
    (flag : Bool) (tape : StepTape P) :
    runStep po ms cfg t s flag tape =
      (stepBeforeOut t tape.resume ms s flag).andThen (fun s' fl =>
        (stepBody po cfg t s' fl tape).andThen (stepAfterOut po t ms tape.fund)) := by
  unfold runStep SOut.andThen stepBeforeOut stepAfterOut
  simp only [↓reduceIte]
  split <;> simp

theorem runSession_eq (po : Nat → PriceOps P) (ms : Markets) (k : Nat) (cfg : SessionCfg) (start : Nat)
    (s : State P) (tapes : List (StepTape P)) :
    runSession po ms k cfg start s tapes =
      (sessionHead ms k cfg start s).andThen (fun s' fl =>
        (runSteps po ms cfg start s' fl tapes cfg.steps).andThen (fun s'' fl' =>
          SOut.emit s'' fl' [Ev.hookSessionAfter k (((start + cfg.steps : Nat) : Int) - 1), Ev.sessionEnd k, Ev.flush]
            true)) := by
  unfold runSession SOut.andThen sessionHead SOut.emit
  simp only [↓reduceIte]
  split <;> simp

theorem run_eq (po : Nat → PriceOps P) (ms : Markets) (price : Nat → P) (fund0 : Nat → Option P)
    (cfgs : List SessionCfg) (tapes : List (List (StepTape P))) :
    run po ms price fund0 cfgs tapes =
      (SOut.emit (initState po price fund0) false ([Ev.simBegin, Ev.flush] ++ ticks ms) true).andThen (fun s _ =>
        (runSessions po ms 0 0 s cfgs tapes).andThen (fun s' fl => SOut.emit s' fl [Ev.simEnd, Ev.flush] true)) := by
  unfold run SOut.andThen SOut.emit
  simp only [↓reduceIte]
  split <;> simp [*]

def Glue.OfAnswer (po : Nat → PriceOps P) (R : State P → Bool → SOut P → Prop) (answer : Nat → List (SReq P)) :
    Prop :=
  ∀ a, ∀ q ∈ answer a, ∀ t s flag, R s flag (processRequest po t s flag q)

namespace Glue

variable {R : State P → Bool → SOut P → Prop} (G : Glue R) {po : Nat → PriceOps P}
include G

theorem processBatch {t : Nat} {qs : List (SReq P)}
    (h : ∀ q ∈ qs, ∀ s flag, R s flag (processRequest po t s flag q)) (s : State P) (flag : Bool) :
    R s flag (processBatch po t s flag qs) := by
  induction qs generalizing s flag with
  | nil => exact G.pure s flag
  | cons q qs ih =>
    exact G.andThen (h q (by simp) s flag) (ih (fun q' hq' => h q' (by simp [hq'])) _ _)

theorem hftRound {t : Nat} {cap : Int} {answer : Nat → List (SReq P)} (h : OfAnswer po R answer)
    (as : List Nat) (n : Nat) (s : State P) (flag : Bool) :
    R s flag (hftRound po t cap answer as n s flag) := by
  induction as generalizing n s flag with
  | nil => exact G.pure s flag
  | cons a as ih =>
    unfold Sim.hftRound
    split
    · exact G.pure s flag
    · simp only
      split
      · exact G.consTr rfl (ih n s flag)
      · split
        · exact G.emit s flag _ false (.cons rfl (.cons rfl .nil))
        · exact G.consTr rfl (G.andThen (G.processBatch (fun q hq => h a q hq t) s flag) (ih _ _ _))

theorem handle {t : Nat} {maxHft : Int} {bs : List (Nat × List (SReq P))} {rts : List (RoundTape P)}
    (hb : ∀ b ∈ bs, ∀ q ∈ b.2, ∀ s flag, R s flag (processRequest po t s flag q))
    (hr : ∀ rt ∈ rts, OfAnswer po R rt.answer) (s : State P) (flag : Bool) :
    R s flag (handle po t maxHft bs rts s flag) := by
  induction bs generalizing rts s flag with
  | nil => exact G.pure s flag
  | cons b bs ih =>
    unfold Sim.handle
    refine G.andThen (G.processBatch (hb b (by simp)) s flag) (G.andThen ?_
      (ih (fun b' hb' => hb b' (by simp [hb'])) (fun rt hrt => hr rt (List.mem_of_mem_tail hrt)) _ _))
    split
    · exact G.hftRound (headD_of_forall (p := fun rt : RoundTape P => OfAnswer po R rt.answer)
        (fun _ _ h => absurd h List.not_mem_nil) hr) _ _ _ _
    · exact G.pure _ _

theorem stepBody {cfg : SessionCfg} {t : Nat} {tape : StepTape P} (ha : OfAnswer po R tape.answer)
    (hr : ∀ rt ∈ tape.rounds, OfAnswer po R rt.answer) (s : State P) (flag : Bool) :
    R s flag (stepBody po cfg t s flag tape) := by
  have hc := collect_glueTr false cfg.maxNormal tape.answer tape.perm 0
  unfold Sim.stepBody
  split
  · simp only
    split
    · refine G.prependTr hc.1 (G.handle (fun b hb q hq => ?_) hr s flag)
      rw [hc.2 b (applyShuffle_mem _ _ b hb)] at hq
      exact ha b.1 q hq t
    · exact G.emit s flag _ false hc.1
  · exact G.pure s flag

/-- `R` holds of what the scheduler does with the inputs of one step tape, glue aside -/
structure Step (po : Nat → PriceOps P) (R : State P → Bool → SOut P → Prop) (tp : StepTape P) : Prop where
  answer : OfAnswer po R tp.answer
  rounds : ∀ rt ∈ tp.rounds, OfAnswer po R rt.answer
  before : ∀ t ms s flag, R s flag (stepBeforeOut t tp.resume ms s flag)
  after : ∀ t ms s flag, R s flag (stepAfterOut po t ms tp.fund s flag)

theorem runStep {ms : Markets} {cfg : SessionCfg} {t : Nat} {tape : StepTape P} (h : Step po R tape)
    (s : State P) (flag : Bool) : R s flag (runStep po ms cfg t s flag tape) :=
  runStep_eq po ms cfg t s flag tape ▸
    G.andThen (h.before t ms s flag) (G.andThen (G.stepBody h.answer h.rounds _ _) (h.after t ms _ _))

/-- `hnone`: a step beyond the end of the tape list runs on `StepTape.none` -/
theorem runSteps {ms : Markets} {cfg : SessionCfg} {tapes : List (StepTape P)} (hnone : Step po R StepTape.none)
    (htapes : ∀ tp ∈ tapes, Step po R tp) (n t : Nat) (s : State P) (flag : Bool) :
    R s flag (runSteps po ms cfg t s flag tapes n) := by
  induction n generalizing t s flag tapes with
  | zero => exact G.pure s flag
  | succ n ih =>
    exact G.andThen (G.runStep (headD_of_forall hnone htapes) s flag)
      (ih (fun tp htp => htapes tp (List.mem_of_mem_tail htp)) _ _ _)

theorem runSession {ms : Markets} {k : Nat} {cfg : SessionCfg} {start : Nat} {tapes : List (StepTape P)}
    (hhead : ∀ s flag, R s flag (sessionHead ms k cfg start s)) (hnone : Step po R StepTape.none)
    (htapes : ∀ tp ∈ tapes, Step po R tp) (s : State P) (flag : Bool) :
    R s flag (runSession po ms k cfg start s tapes) :=
  runSession_eq po ms k cfg start s tapes ▸
    G.andThen (hhead s flag) (G.andThen (G.runSteps hnone htapes _ _ _ _)
      (G.emit _ _ _ true (.cons rfl (.cons rfl (.cons rfl .nil)))))

/-- `hend`: at the end of the list `runSessions` reports the flag as off, whatever it was -/
theorem runSessions {ms : Markets} {cfgs : List SessionCfg} {tapes : List (List (StepTape P))}
    (hend : ∀ s flag, R s flag (SOut.pure s false))
    (hhead : ∀ k cfg start s flag, R s flag (sessionHead ms k cfg start s)) (hnone : Step po R StepTape.none)
    (htapes : ∀ ts ∈ tapes, ∀ tp ∈ ts, Step po R tp) (k start : Nat) (s : State P) (flag : Bool) :
    R s flag (runSessions po ms k start s cfgs tapes) := by
  induction cfgs generalizing k start s flag tapes with
  | nil => exact hend s flag
  | cons cfg cfgs ih =>
    exact G.andThen (G.runSession (hhead k cfg start) hnone (headD_of_forall (List.forall_mem_nil _) htapes) s flag)
      (ih (fun ts hts => htapes ts (List.mem_of_mem_tail hts)) _ _ _ _)

theorem run {ms : Markets} {cfgs : List SessionCfg} {tapes : List (List (StepTape P))}
    (hend : ∀ s flag, R s flag (SOut.pure s false))
    (hhead : ∀ k cfg start s flag, R s flag (sessionHead ms k cfg start s)) (hnone : Step po R StepTape.none)
    (htapes : ∀ ts ∈ tapes, ∀ tp ∈ ts, Step po R tp) (price : Nat → P) (fund0 : Nat → Option P) :
    R (initState po price fund0) false (run po ms price fund0 cfgs tapes) :=
  run_eq po ms price fund0 cfgs tapes ▸
    G.andThen (G.emit _ _ _ true (.append (.cons rfl (.cons rfl .nil)) ticks_glueTr))
      (G.andThen (G.runSessions hend hhead hnone htapes _ _ _ _) (G.emit _ _ _ true (.cons rfl (.cons rfl .nil))))

theorem run_of_frame {ms : Markets} {cfgs : List SessionCfg} {tapes : List (List (StepTape P))}
    (hframe : ∀ {s flag a}, SOut.Frame s a → R s flag a)
    (hreq : ∀ q t s flag, R s flag (Sim.processRequest po t s flag q)) (price : Nat → P) (fund0 : Nat → Option P) :
    R (initState po price fund0) false (Sim.run po ms price fund0 cfgs tapes) :=
  have hstep (tp : StepTape P) : Step po R tp :=
    ⟨fun _ q _ => hreq q, fun _ _ _ q _ => hreq q, fun _ _ _ _ => hframe stepBeforeOut_frame,
      fun _ _ _ _ => hframe stepAfterOut_frame⟩
  G.run (fun _ _ => hframe (emit_frame .nil)) (fun _ _ _ _ _ => hframe sessionHead_frame) (hstep _)
    (fun _ _ tp _ => hstep tp) price fund0

end Glue

end Pams.Sim
