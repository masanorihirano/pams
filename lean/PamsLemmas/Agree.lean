/-
Source = model by agreement of decision trees.

The model side of a source theorem is written as a decision tree over the same atoms (`Tree Obs`, a
few nodes).  `Tree.agreesOn` checks one path of the symbolic run against it: the tree is walked with
the path's conditions as known facts (`decideO`), and at every leaf that remains reachable the two
observations must be the same term by term, or equal by order reasoning.  The check is a closed
boolean, so "every path of the run agrees with the model tree" (`agreesA`, `agreesP`) is evaluated by
the kernel; its soundness (`resultG_eq_of_agree`, `resultG_eq_of_agreeP`) is proved once.  What is left
per function is to show that the tree denotes the model (a proof about a handful of nodes, not about
the run).

Which check.  `agreesA assume` and `agreesP` compare the leaves alike; they differ in how the paths of
the run are listed.  `agreesP` prunes by look-up of the same condition only (`pathsP`): enough where the
run repeats a test verbatim or not at all — most families.  Paths that contradict themselves otherwise
remain, and the tree then has to ask what the source asks, test by test.  `agreesA` prunes by order
reasoning (`decideO`) under the facts `assume` about the initial state (`agreesA []`: no facts; soundness
`resultG_eq_of_agreeO`): for runs that ask comparisons whose answer follows from earlier ones (`a < b`, then
`b < a`; priorities on a sorted queue — SrcOrder, SrcMarket, SrcMarket21, SrcEvents, two of the agents).  A
fact of `assume` is found by look-up among the conditions as the run decides them, so it is written as the
term constructors leave a condition: no `.not`, and a positive volume `v`, say, as `(.ile v (.lit 0), false)`
(`assume21` of SrcMarket21Defs).

Names.  `xT` is a `Tree`, `xO` an `Obs`, `xN` / `xI` / `xB` an `NTerm` / `ITerm` / `BTerm`.  `xT_denote`
says what `(xT …).denote ρ` is, read by `.eval ρ` or not; `xO_eval`, `xN_eval`, … say what `(xO …).eval ρ`
is.  `x_agree` is the kernel's check, stated as `… = true` for all shapes (`∀` over Booleans, `∀ x ∈ list`) or,
where the functions, states or observations differ, for all members of a list of named cases; a use picks its
member by `(by simp [xCases])`.

When a new shape fails its `x_agree`: evaluate the list of pruned paths (`obsPathsAG …` / `obsPathsPG …`; the
unpruned `obsPathsG` of a run with a loop does not come back) and `Tree.agreesOn` on each, and compare the leaf of a failing path with the leaves of the tree its conditions lead to.  Apart
from a mistake in the tree there are three causes.  Too little fuel: the path ends in `Err.fuel` (the
check fails, it never passes wrongly).  `decideGraph` follows chains of two comparisons, not three.
`Obs.agree` asks the pruner about the two whole terms of a leaf only, never about their parts: from
`a == b` it finds `a` and `b` equal, not `a + x` and `b + x`.  In the last two cases give the tree the
node the source has there, so that its leaf holds the same term as the run's.
-/
import PamsLemmas.PySem

namespace Pams.Py

/-- the path's conditions in the form the pruner keeps them (negations stripped) -/
def coreConds (conds : List (BTerm × Bool)) : List (BTerm × Bool) :=
  conds.map (fun cb => (cb.1.core.1, cb.2 ^^ cb.1.core.2))

theorem coreConds_hold {K : Type} [PyNum K] (ρ : Rho K) (conds : List (BTerm × Bool))
    (h : ∀ cb ∈ conds, cb.1.eval ρ = cb.2) : ∀ kb ∈ coreConds conds, kb.1.eval ρ = kb.2 := by
  intro kb hkb
  obtain ⟨cb, hcb, rfl⟩ := List.mem_map.1 hkb
  have := h cb hcb
  rw [BTerm.core_eval] at this
  rw [← this, Bool.xor_assoc, Bool.xor_self, Bool.xor_false]

mutual
/-- two observations read the same under every valuation satisfying `known`: the same shape and, for
terms, the same term or an equality the pruner decides (for a boolean: the model's literal is what the
pruner finds for the run's term — a method that returns a comparison unevaluated, against a tree that asks it) -/
def Obs.agree (known : List (BTerm × Bool)) : Obs → Obs → Bool
  | .bool s, .bool t =>
    decide (s = t) || match t with
      | .lit b => decideO known s == some b
      | _ => false
  | .int s, .int t => decide (s = t) || decideO known (.ieq s t) == some true
  | .num s, .num t => decide (s = t) || decideO known (.neq s t) == some true
  | .none, .none => true
  | .ref a, .ref b => a == b
  | .str s, .str t => s == t
  | .other, .other => true
  | .absent, .absent => true
  | .tuple l, .tuple l' => Obs.agreeList known l l'
  | .err e, .err e' => decide (e = e')
  | _, _ => false
def Obs.agreeList (known : List (BTerm × Bool)) : List Obs → List Obs → Bool
  | [], [] => true
  | o :: os, o' :: os' => Obs.agree known o o' && Obs.agreeList known os os'
  | _, _ => false
end

/-- the path `p` of a run agrees with the model tree `M`, given the facts `assume`: `M` is walked with the
conditions of `p` as known facts (its pruned paths, `pathsD decideO`), and at every leaf `q` that remains
reachable the two observations agree under everything known there -/
def Tree.agreesOn (M : Tree Obs) (assume : List (BTerm × Bool)) (p : List (BTerm × Bool) × Obs) : Bool :=
  (M.pathsD decideO (coreConds p.1 ++ assume)).all fun q =>
    Obs.agree (coreConds q.1 ++ (coreConds p.1 ++ assume)) p.2 q.2

section
variable {K : Type} [LinearOrder K] [NumOpsC K]

mutual
theorem Obs.agree_sound (ρ : Rho K) (known : List (BTerm × Bool)) (hk : ∀ kb ∈ known, kb.1.eval ρ = kb.2) :
    ∀ o o' : Obs, Obs.agree known o o' = true → o.eval ρ = o'.eval ρ
  | .bool s, .bool t, h => by
    simp only [Obs.agree, Bool.or_eq_true, decide_eq_true_eq] at h
    rcases h with rfl | h
    · rfl
    · cases t <;> simp only [Bool.false_eq_true, beq_iff_eq] at h
      simp only [Obs.eval, BTerm.eval, decideO_sound ρ known _ _ hk h]
  | .int s, .int t, h => by
    simp only [Obs.agree, Bool.or_eq_true, decide_eq_true_eq, beq_iff_eq] at h
    rcases h with rfl | h
    · rfl
    · have := decideO_sound ρ known _ _ hk h
      simp only [BTerm.eval, decide_eq_true_eq] at this
      simp only [Obs.eval, this]
  | .num s, .num t, h => by
    simp only [Obs.agree, Bool.or_eq_true, decide_eq_true_eq, beq_iff_eq] at h
    rcases h with rfl | h
    · rfl
    · have := decideO_sound ρ known _ _ hk h
      simp only [BTerm.eval, pyBeq_eq, decide_eq_true_eq] at this
      simp only [Obs.eval, this]
  | .none, .none, _ => rfl
  | .ref a, .ref b, h => by simp only [Obs.agree, beq_iff_eq] at h; rw [h]
  | .str s, .str t, h => by simp only [Obs.agree, beq_iff_eq] at h; rw [h]
  | .other, .other, _ => rfl
  | .absent, .absent, _ => rfl
  | .tuple l, .tuple l', h => by
    simp only [Obs.agree] at h
    simp only [Obs.eval, Obs.agreeList_sound ρ known hk l l' h]
  | .err e, .err e', h => by simp only [Obs.agree, decide_eq_true_eq] at h; rw [h]
theorem Obs.agreeList_sound (ρ : Rho K) (known : List (BTerm × Bool)) (hk : ∀ kb ∈ known, kb.1.eval ρ = kb.2) :
    ∀ l l' : List Obs, Obs.agreeList known l l' = true → Obs.evalList ρ l = Obs.evalList ρ l'
  | [], [], _ => rfl
  | o :: os, o' :: os', h => by
    simp only [Obs.agreeList, Bool.and_eq_true] at h
    simp only [Obs.evalList, Obs.agree_sound ρ known hk o o' h.1, Obs.agreeList_sound ρ known hk os os' h.2]
end

theorem Tree.agreesOn_sound (ρ : Rho K) (M : Tree Obs) (assume : List (BTerm × Bool))
    (hass : ∀ kb ∈ assume, kb.1.eval ρ = kb.2) (p : List (BTerm × Bool) × Obs)
    (hp : ∀ cb ∈ p.1, cb.1.eval ρ = cb.2) (h : M.agreesOn assume p = true) :
    p.2.eval ρ = (M.denote ρ).eval ρ := by
  have hk : ∀ kb ∈ coreConds p.1 ++ assume, kb.1.eval ρ = kb.2 :=
    List.forall_mem_append.2 ⟨coreConds_hold ρ p.1 hp, hass⟩
  exact Tree.denote_of_pathsD ρ decideO (fun known d b hk hb => decideO_sound ρ known d b hk hb)
    (fun o => p.2.eval ρ = o.eval ρ) M _ hk fun q hq hc =>
      Obs.agree_sound ρ _ (List.forall_mem_append.2 ⟨coreConds_hold ρ q.1 hc, hk⟩) _ _ (List.all_eq_true.1 h q hq)

def agreesA (assume : List (BTerm × Bool)) (g : Except Err (Val × St) → Obs) (env : Env) (fuel : Nat)
    (fn : String) (args : List Val) (st : St) (M : Tree Obs) : Bool :=
  (obsPathsAG assume g env fuel fn args st).all (M.agreesOn assume)

def agreesP (g : Except Err (Val × St) → Obs) (env : Env) (fuel : Nat) (fn : String) (args : List Val)
    (st : St) (M : Tree Obs) : Bool :=
  (obsPathsPG g env fuel fn args st).all (M.agreesOn [])

/-- **source = model tree**: if the run agrees with `M`, the observable result is what `M` denotes -/
theorem resultG_eq_of_agree {assume : List (BTerm × Bool)} {g : Except Err (Val × St) → Obs} (ρ : Rho K)
    {env : Env} {fuel : Nat} {fn : String} {args : List Val} {st : St} {M : Tree Obs}
    (hass : ∀ kb ∈ assume, kb.1.eval ρ = kb.2) (h : agreesA assume g env fuel fn args st M = true) :
    resultG g ρ env fuel fn args st = (M.denote ρ).eval ρ :=
  resultG_eq_of_pathsA assume g ρ env fuel fn args st _ hass
    (fun p hp hc => Tree.agreesOn_sound ρ M assume hass p hc (List.all_eq_true.1 h p hp))

theorem resultG_eq_of_agreeO {g : Except Err (Val × St) → Obs} (ρ : Rho K) {env : Env} {fuel : Nat}
    {fn : String} {args : List Val} {st : St} {M : Tree Obs} (h : agreesA [] g env fuel fn args st M = true) :
    resultG g ρ env fuel fn args st = (M.denote ρ).eval ρ :=
  resultG_eq_of_agree ρ (by simp) h

theorem resultG_eq_of_agreeP {g : Except Err (Val × St) → Obs} (ρ : Rho K) {env : Env} {fuel : Nat}
    {fn : String} {args : List Val} {st : St} {M : Tree Obs} (h : agreesP g env fuel fn args st M = true) :
    resultG g ρ env fuel fn args st = (M.denote ρ).eval ρ :=
  resultG_eq_of_pathsP g ρ env fuel fn args st _
    (fun p hp hc => Tree.agreesOn_sound ρ M [] (by simp) p hc (List.all_eq_true.1 h p hp))
end

/-! ### parts model trees are built from

A part that chooses a value (a term, a queue) is a `Tree τ`, put in front of the rest by `Tree.bind` /
`Tree.map` (`maxT`, `minT`; `snapT` of SrcAdd, `expiryT` of SrcTick; a value that may be missing is an
`Option`: `pairT` of SrcTrees); its `_denote` lemma is an equation for `(xT …).denote ρ`.  A part that
decides where control goes takes the sub-trees it goes to as its last arguments — the rest `k` after a
test that can refuse (`assertT`, `divT`), `yes no` after a comparison (`ltT`, `eqT` of SrcTrees) — and
its `_denote` lemma rewrites `(xT … k).denote ρ` to the denotation of those.  Only where choices and
refusals alternate does the rest take the value chosen (`fcnT` of SrcAgentsFcn).

Where the observation carries no symbolic number (call sequences: the scheduler, the hook dispatchers) the
tree need not be written at all: it asks the questions the run asks (`askAll`) and has the model's own
function at the leaf, evaluated at `Empty` and turned back into a term (`quote` of SrcRunner, `dispatchT` of
SrcSimulator); its `_denote` lemma is then nearly free. -/

/-- the float literal `i.0` -/
def numLit (i : Int) : NTerm := .ofInt (.lit i)

@[py_eval] theorem numLit_eval {K : Type} [LinearOrder K] [NumOpsC K] (ρ : Rho K) (i : Int) :
    (numLit i).eval ρ = NumOpsC.ofInt i := rfl

/-- an optional number kept in the atom `k` -/
def optAtom (has : Bool) (k : Nat) : Option NTerm := if has then some (.atom k) else none

namespace Tree
variable {α τ : Type}

/-- `if c then t else f` on two given sub-trees; the test of a literal is no choice point of the run -/
def ifT : BTerm → Tree α → Tree α → Tree α
  | .lit b, t, f => if b then t else f
  | c, t, f => node c (fun _ => t) (fun _ => f)

def ask (c : BTerm) (f : Bool → Tree α) : Tree α := ifT c (f true) (f false)

def askAll : List BTerm → (List Bool → Tree α) → Tree α
  | [], f => f []
  | c :: cs, f => ask c fun b => askAll cs fun bs => f (b :: bs)

def raiseT (e : String) : Tree Obs := leaf (.err (.raise e))

/-- `assert c`, then `k` -/
def assertT (c : BTerm) (k : Tree Obs) : Tree Obs := ifT c k (raiseT "AssertionError")

/-- a division by `y`, then `k` -/
def divT (y : NTerm) (k : Tree Obs) : Tree Obs := ifT (.neq y (numLit 0)) (raiseT "ZeroDivisionError") k

/-- Python's two-argument `max` / `min` on terms of a sort with comparison `lt`, as the run computes
them: the term chosen -/
def maxT (lt : τ → τ → BTerm) (a b : τ) : Tree τ := ifT (lt a b) (leaf b) (leaf a)
def minT (lt : τ → τ → BTerm) (a b : τ) : Tree τ := ifT (lt b a) (leaf b) (leaf a)

section
variable {K : Type} [PyNum K] (ρ : Rho K)

@[py_eval] theorem ifT_denote (c : BTerm) (t f : Tree α) :
    (ifT c t f).denote ρ = if c.eval ρ then t.denote ρ else f.denote ρ := by
  cases c <;> simp [ifT, py_eval]
  rename_i b; cases b <;> rfl

@[py_eval] theorem ask_denote (c : BTerm) (f : Bool → Tree α) :
    (ask c f).denote ρ = (f (c.eval ρ)).denote ρ := by
  rw [ask, ifT_denote]
  cases c.eval ρ <;> rfl

@[py_eval] theorem askAll_denote : ∀ (cs : List BTerm) (f : List Bool → Tree α),
    (askAll cs f).denote ρ = (f (cs.map (·.eval ρ))).denote ρ
  | [], f => rfl
  | c :: cs, f => by rw [askAll, ask_denote, askAll_denote cs, List.map_cons]

@[py_eval] theorem raiseT_denote (e : String) : (raiseT e).denote ρ = .err (.raise e) := rfl

@[py_eval] theorem assertT_denote (c : BTerm) (k : Tree Obs) (h : c.eval ρ = true) :
    (assertT c k).denote ρ = k.denote ρ := by
  rw [assertT, ifT_denote, if_pos h]

theorem maxT_denote (lt : τ → τ → BTerm) (a b : τ) :
    (maxT lt a b).denote ρ = if (lt a b).eval ρ then b else a := by
  rw [maxT, ifT_denote]; rfl

theorem minT_denote (lt : τ → τ → BTerm) (a b : τ) :
    (minT lt a b).denote ρ = if (lt b a).eval ρ then b else a := by
  rw [minT, ifT_denote]; rfl

theorem maxT_denote_nat (a b : ITerm) (x y : Nat) (ha : a.eval ρ = x) (hb : b.eval ρ = y) :
    ((maxT .ilt a b).denote ρ).eval ρ = (if x < y then y else x : Nat) := by
  by_cases h : x < y <;> simp [maxT_denote, py_eval, ha, hb, h]

theorem minT_denote_nat (a b : ITerm) (x y : Nat) (ha : a.eval ρ = x) (hb : b.eval ρ = y) :
    ((minT .ilt a b).denote ρ).eval ρ = (if y < x then y else x : Nat) := by
  by_cases h : y < x <;> simp [minT_denote, py_eval, ha, hb, h]
end

section
variable {K : Type} [LinearOrder K] [NumOpsC K] (ρ : Rho K)

/-- (`¬ _ = _`, not `_ ≠ _`: in that form `simp` discharges the hypothesis itself) -/
@[py_eval] theorem divT_denote (y : NTerm) (k : Tree Obs) (h : ¬ y.eval ρ = NumOpsC.ofInt 0) :
    (divT y k).denote ρ = k.denote ρ := by
  rw [divT, ifT_denote, if_neg (by simpa [py_eval] using h)]

theorem maxT_denote_num (a b : NTerm) :
    ((maxT .nlt a b).denote ρ).eval ρ = Arith.max (a.eval ρ) (b.eval ρ) := by
  by_cases h : a.eval ρ < b.eval ρ <;> simp [maxT_denote, Arith.max, py_eval, h]

theorem minT_denote_num (a b : NTerm) :
    ((minT .nlt a b).denote ρ).eval ρ = Arith.min (a.eval ρ) (b.eval ρ) := by
  by_cases h : b.eval ρ < a.eval ρ <;> simp [minT_denote, Arith.min, py_eval, h]
end

end Tree

section
variable {K : Type} [PyNum K] (ρ : Rho K)

theorem optAtom_map_eval (has : Bool) (k : Nat) :
    (optAtom has k).map (NTerm.eval ρ) = if has then some (ρ.n k) else none := by
  cases has <;> rfl

/-- the atom `k` reads as `x`, or as anything when there is no `x` -/
theorem optAtom_eval (x : Option K) (k : Nat) {d : K} (h : ρ.n k = x.getD d) :
    (optAtom x.isSome k).map (NTerm.eval ρ) = x := by
  cases x <;> simp_all [optAtom_map_eval]
end

end Pams.Py
