/-
The model side of `Market._execution` on a book of one buy order `a` and one sell order `b`: the round
spelled out in the vocabulary of `execObs` (`round11`), the walk of `[a]` against `[b]` in closed form,
and the proof that the model's `Market.execution` is `round11`.
-/
import PamsLemmas.SrcMarketDefs
import PamsLemmas.MatchLemmas

namespace Pams.Src
open Pams Pams.Py
variable {K : Type}

variable [LinearOrder K]

theorem pairPrice_isSome (a b : Order K) (hnn : ¬ (a.price = none ∧ b.price = none)) :
    ∃ price, pairPrice a b = some price :=
  Option.ne_none_iff_exists'.mp (pairPrice_some_of_limit a b (by rwa [← not_and_or]))

theorem walk11 (a b : Order K) (h : noCross a b = false) :
    walk [a] [b] =
      if a.vol < b.vol then ([⟨a.vol, a, b⟩], [], [{ b with vol := b.vol - a.vol }])
      else if b.vol < a.vol then ([⟨b.vol, a, b⟩], [{ a with vol := a.vol - b.vol }], [])
      else ([⟨a.vol, a, b⟩], [], []) := by
  have hl : ∀ ss : List (Order K), walk [] ss = ([], [], ss) := fun ss => walk_stop (by simp)
  have hr : ∀ bs : List (Order K), walk bs [] = ([], bs, []) := fun bs => walk_stop (by simp)
  rw [walk_step [] [] h]
  rcases Nat.lt_trichotomy a.vol b.vol with hv | hv | hv
  · simp [rest, hv, Nat.lt_asymm hv, Nat.min_eq_left (Nat.le_of_lt hv), hl]
  · simp [rest, hv, hl]
  · simp [rest, hv, Nat.lt_asymm hv, Nat.min_eq_right (Nat.le_of_lt hv), hr]

theorem cross_of_executable (a b : Order K) (hnn : ¬ (a.price = none ∧ b.price = none))
    (h : ¬ remainExecutable [a] [b] = false) : noCross a b = false := by
  rw [remainExecutable_of_limit [] [] (by rwa [← not_and_or])] at h
  simpa using h

variable [NumOpsC K]

/-- what `execObs` shows of a book `[a]` / `[b]` on which nothing was matched -/
def idle11 (m : Market K) (a b : Order K) : CObs K :=
  .tuple [.tuple [], .int a.vol, .int b.vol, .tuple [.ref 1], .tuple [.ref 2], .tuple [cOpt m.cur.last],
          .tuple [.int m.cur.execVol], .tuple [.num m.cur.turnover], .tuple [cOpt m.cur.mid],
          .tuple [cOpt m.cur.market]]

/-- what `execObs` shows after `a` and `b` traded `min a.vol b.vol` at `price`: the smaller order
leaves its queue, the statistics of the step move by that fill, the mid-quote is gone (one side is
empty) and the market price is the trade price -/
def fill11 (m : Market K) (a b : Order K) (price : K) : CObs K :=
  let v : Nat := min a.vol b.vol
  .tuple [.tuple [.tuple [.num price, .int v, .int a.id, .int b.id, .int a.agent, .int b.agent, .int m.time]],
          .int ((a.vol - v : Nat) : Int), .int ((b.vol - v : Nat) : Int),
          .tuple (if a.vol - v = 0 then [] else [.ref 1]), .tuple (if b.vol - v = 0 then [] else [.ref 2]),
          .tuple [.num price], .tuple [.int ((m.cur.execVol : Int) + v)],
          .tuple [.num (m.cur.turnover + PyNum.ofInt v * price)],
          .tuple [.none], .tuple [.num price]]

/-- **one matching round on a book holding one buy order `a` and one sell order `b`, spelled out**
(what `execObs` shows of it): nothing happens unless the pair is executable; a zero volume, equal
ids, no price (two market orders) or a market that is not running raise; otherwise one fill at the
price of the pair (`pairPrice`: the limit side against a market order, the earlier-accepted of two
limit orders, the lower id at equal times). -/
def round11 (m : Market K) (a b : Order K) : CObs K :=
  if remainExecutable [a] [b] = false then idle11 m a b
  else if a.vol = 0 ∨ b.vol = 0 ∨ a.id = b.id then .err (.raise "AssertionError")
  else
    match pairPrice a b with
    | none => .err (.raise "AssertionError")
    | some price => if m.running = false then .err (.raise "AssertionError") else fill11 m a b price

section
attribute [local simp] modelObs remainExecutable Market.settle Market.refresh midOf marketRule Book.bestPrice mkFill
  cFill volOf cOpt srcOps fill11

theorem model_round11 (m : Market K) (a b : Order K)
    (hb : m.buys = [a]) (hs : m.sells = [b]) (hnn : ¬ (a.price = none ∧ b.price = none)) :
    modelObs a b (Market.execution (srcOps K) m) = round11 m a b := by
  unfold round11 Market.execution
  rw [hb, hs]
  by_cases hex : remainExecutable [a] [b] = false
  · simp only [hex, if_true, modelObs, volOf, List.map, hb, hs, idle11]
  · have hc := cross_of_executable a b hnn hex
    rw [walk11 a b hc]
    simp only [hex]
    by_cases hz : a.vol = 0 ∨ b.vol = 0 ∨ a.id = b.id
    · rw [if_pos hz]
      rcases hz with hz | hz | hz
      · simp [hz]
      · simp [hz]
      · by_cases hv : a.vol = 0 ∨ b.vol = 0 <;> simp [hv, hz]
    · rw [if_neg hz]
      simp only [not_or] at hz
      obtain ⟨hz1, hz2, hz3⟩ := hz
      obtain ⟨price, hpp⟩ := pairPrice_isSome a b hnn
      cases hr : m.running <;> rcases Nat.lt_trichotomy a.vol b.vol with hlt | heq | hgt
      · simp [hlt, roundPrice, hpp, hz1, hz2, hz3]
      · simp [heq, roundPrice, hpp, hz2, hz3]
      · simp [hgt, Nat.lt_asymm hgt, roundPrice, hpp, hz1, hz2, hz3]
      · have hmin : min a.vol b.vol = a.vol := by omega
        simp [hlt, roundPrice, hpp, hz1, hz2, hz3, hmin, hb, hs, hr]
        omega
      · simp [heq, roundPrice, hpp, hz2, hz3, hb, hs, hr]
      · have hmin : min a.vol b.vol = b.vol := by omega
        simp [hgt, Nat.lt_asymm hgt, roundPrice, hpp, hz1, hz2, hz3, hmin, hb, hs, hr]
        omega
end

end Pams.Src
