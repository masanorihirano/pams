/-
`Market._fill_until` as it stands in /repo (translated: `PamsGen.Code`): growing the storage of the
per-step series never touches a filled slot — every series keeps all its values and is padded with its
own neutral element.  By symbolic execution, on a market with chunk size 4 whose eight series hold two
slots each (all sixteen values atoms) and that is asked to make room for time 2.
-/
import PamsLemmas.Agree
import PamsGen.Code
import PamsLemmas.SrcOrder

namespace Pams.Src
open Pams Pams.Py

variable {K : Type}

def fillMarket : String → Option Val
  | "__class__" => some (.str "Market")
  | "chunk_size" => some (.int (.lit 4))
  | "_market_prices" => some (.list [.num (.atom 10), .num (.atom 11)])
  | "_mid_prices" => some (.list [.num (.atom 20), .num (.atom 21)])
  | "_last_executed_prices" => some (.list [.num (.atom 30), .num (.atom 31)])
  | "_fundamental_prices" => some (.list [.num (.atom 40), .num (.atom 41)])
  | "_executed_volumes" => some (.list [.int (.atom 50), .int (.atom 51)])
  | "_executed_total_prices" => some (.list [.num (.atom 60), .num (.atom 61)])
  | "_n_buy_orders" => some (.list [.int (.atom 70), .int (.atom 71)])
  | "_n_sell_orders" => some (.list [.int (.atom 80), .int (.atom 81)])
  | _ => none

def fillSt : St := { heap := fun a => if a = 5 then fillMarket else fun _ => none, calls := [] }

def seriesObs (st : St) (f : String) : Obs :=
  match st.heap 5 f with
  | some (.list l) => .tuple (l.map Obs.ofVal)
  | _ => .other

def fillObs : Except Py.Err (Val × St) → Obs
  | .ok (_, st) =>
    .tuple [seriesObs st "_market_prices", seriesObs st "_mid_prices", seriesObs st "_last_executed_prices",
            seriesObs st "_fundamental_prices", seriesObs st "_executed_volumes", seriesObs st "_executed_total_prices",
            seriesObs st "_n_buy_orders", seriesObs st "_n_sell_orders"]
  | .error e => .err e

def rhoFill (x : Nat → K) (n : Nat → Int) : Rho K := { i := n, n := x, b := fun _ => false }

section
variable (x : Nat → K) (n : Nat → Int) (k : Nat)
@[py_eval] theorem rhoFill_i : (rhoFill x n).i k = n k := rfl
@[py_eval] theorem rhoFill_n : (rhoFill x n).n k = x k := rfl
end

variable [LinearOrder K] [NumOpsC K]

section tree
open ITerm NTerm Tree

/-- the eight series with the two values each holds, followed (`grown`) by two fresh slots with the
series' own neutral value: `None` for the four price series, `0` for the four counters -/
def seriesT (grown : Bool) : Tree Obs :=
  let row (v w fresh : Obs) : Obs := .tuple (if grown then [v, w, fresh, fresh] else [v, w])
  leaf (.tuple [row (.num (atom 10)) (.num (atom 11)) .none, row (.num (atom 20)) (.num (atom 21)) .none,
                row (.num (atom 30)) (.num (atom 31)) .none, row (.num (atom 40)) (.num (atom 41)) .none,
                row (.int (atom 50)) (.int (atom 51)) (.int (lit 0)), row (.num (atom 60)) (.num (atom 61)) (.int (lit 0)),
                row (.int (atom 70)) (.int (atom 71)) (.int (lit 0)), row (.int (atom 80)) (.int (atom 81)) (.int (lit 0))])
end tree

theorem fill_agree : ∀ c ∈ [(2, true), (1, false)],
    agreesP fillObs env FUEL "Market._fill_until" [.ref 5, .int (.lit c.1)] fillSt (seriesT c.2) = true := by
  decide +kernel

/-- **storage growth keeps every recorded value** (current source): asked to make room for time 2, each
of the eight series keeps its two slots as they are and gets two fresh slots — `None` for the four
price series, `0` for the four counters — and nothing is copied from one series into another. -/
theorem fill_src_grows (x : Nat → K) (n : Nat → Int) :
    resultG fillObs (rhoFill x n) env FUEL "Market._fill_until" [.ref 5, .int (.lit 2)] fillSt
      = .tuple [ .tuple [.num (x 10), .num (x 11), .none, .none], .tuple [.num (x 20), .num (x 21), .none, .none],
                 .tuple [.num (x 30), .num (x 31), .none, .none], .tuple [.num (x 40), .num (x 41), .none, .none],
                 .tuple [.int (n 50), .int (n 51), .int 0, .int 0], .tuple [.num (x 60), .num (x 61), .int 0, .int 0],
                 .tuple [.int (n 70), .int (n 71), .int 0, .int 0], .tuple [.int (n 80), .int (n 81), .int 0, .int 0] ] := by
  rw [resultG_eq_of_agreeP (rhoFill x n) (fill_agree (2, true) (by simp))]
  simp [seriesT, py_eval]

/-- asked to make room for time 1, which is there already, `_fill_until` changes nothing at all -/
theorem fill_src_noop (x : Nat → K) (n : Nat → Int) :
    resultG fillObs (rhoFill x n) env FUEL "Market._fill_until" [.ref 5, .int (.lit 1)] fillSt
      = .tuple [ .tuple [.num (x 10), .num (x 11)], .tuple [.num (x 20), .num (x 21)],
                 .tuple [.num (x 30), .num (x 31)], .tuple [.num (x 40), .num (x 41)],
                 .tuple [.int (n 50), .int (n 51)], .tuple [.num (x 60), .num (x 61)],
                 .tuple [.int (n 70), .int (n 71)], .tuple [.int (n 80), .int (n 81)] ] := by
  rw [resultG_eq_of_agreeP (rhoFill x n) (fill_agree (1, false) (by simp))]
  simp [seriesT, py_eval]

end Pams.Src
