/-
`json_extends` as it stands in /repo (translated: `PamsGen.Code`) is the model's `Config.jsonExtends` — by
symbolic execution on configurations given as model objects: a model object (`Config.Obj`, opaque key and
value codes) is written out as a Python dict (`objVal`: key code ↦ a fixed string, the value under
`"extends"` ↦ the parent's name, every other value code `n` ↦ the int atom `n`, whose value is
quantified), the source is run on it, and the dict it returns is compared, key by key in order, with the
model's result.  Second part: `JsonRandom.random`, the random values of a configuration, shape by shape.
-/
import PamsLemmas.Agree
import PamsGen.Code
import PamsModel.Config
import PamsLemmas.SrcOrder

namespace Pams.Src
open Pams Pams.Py Pams.Config

variable {K : Type} [LinearOrder K] [NumOpsC K]

def keyStr : Nat → String
  | 0 => "extends" | 1 => "x" | 2 => "y" | 3 => "z" | 4 => "w" | _ => "other"

def nameStr : Nat → String
  | 10 => "A" | 11 => "B" | 12 => "C" | 13 => "child" | _ => "Z"

def objVal (o : Obj) : Val :=
  .dict (o.map (fun kv => .str (keyStr kv.1)))
        (o.map (fun kv => if kv.1 = 0 then .str (nameStr kv.2) else .int (.atom kv.2)))

def wholeVal (w : List (Nat × Obj)) : Val :=
  .dict (w.map (fun x => .str (nameStr x.1))) (w.map (fun x => objVal x.2))

def exclVal : Option (List Nat) → Val
  | none => .none
  | some l => .list (l.map (fun k => .str (keyStr k)))

def cfgEnv : Env := { prog := PamsGen.Code.prog, globals := globals, ext := fun _ _ _ _ => none }
def cfgSt : St := { heap := fun _ _ => none, calls := [] }

/-- the returned dict, keys and values in order -/
def dictObs : Except Py.Err (Val × St) → Obs
  | .ok (.dict ks vs, _) => .tuple [.tuple (ks.map Obs.ofVal), .tuple (vs.map Obs.ofVal)]
  | .ok _ => .other
  | .error e => .err e

def rhoCfg (val : Nat → Int) : Rho K :=
  { i := fun k => val k, n := fun _ => PyNum.ofInt 0, b := fun _ => false }

section
variable (val : Nat → Int)
@[py_eval] theorem rhoCfg_i (k : Nat) : (rhoCfg (K := K) val).i k = val k := rfl
end

/-- the model's result as observed (a missing parent and an inheritance cycle are both `ValueError`) -/
def cfgObs (val : Nat → Int) : Except ExtErr Obj → CObs K
  | .ok o => .tuple [.tuple (o.map (fun kv => .str (keyStr kv.1))),
                     .tuple (o.map (fun kv => if kv.1 = 0 then .str (nameStr kv.2) else .int (val kv.2)))]
  | .error _ => .err (.raise "ValueError")

/-- three classes: A extends B extends C, with overlapping keys in different orders -/
def wABC : List (Nat × Obj) :=
  [(10, [(0, 11), (1, 101), (2, 102)]), (11, [(2, 112), (0, 12), (3, 113)]), (12, [(3, 123), (4, 124), (1, 121)])]
/-- A and B extend each other -/
def wCyc : List (Nat × Obj) := [(10, [(1, 101), (0, 11)]), (11, [(0, 10), (2, 112)])]

def tgt : Obj := [(4, 904), (0, 10), (2, 902)]

def CfgSpec (K : Type) [LinearOrder K] [NumOpsC K] (w : List (Nat × Obj)) (p : Nat) (t : Obj)
    (e : Option (List Nat)) : Prop :=
  ∀ val : Nat → Int,
    resultG dictObs (rhoCfg (K := K) val) cfgEnv FUEL "json_extends" [wholeVal w, .str (nameStr p), objVal t, exclVal e] cfgSt
      = cfgObs val (jsonExtends w p t (e.getD []))

/-- a configuration checked: the classes, the target's name, the target, the excluded fields -/
structure CfgCase where
  w : List (Nat × Obj)
  p : Nat
  t : Obj
  e : Option (List Nat)

/-- the model's result as `dictObs` shows it when the source returns it (`objVal`) or raises -/
def cfgO : Except ExtErr Obj → Obs
  | .ok o => .tuple [.tuple (o.map (fun kv => .str (keyStr kv.1))),
                     .tuple (o.map (fun kv => if kv.1 = 0 then .str (nameStr kv.2) else .int (.atom kv.2)))]
  | .error _ => .err (.raise "ValueError")

theorem cfgO_eval (val : Nat → Int) : ∀ r, (cfgO r).eval (rhoCfg (K := K) val) = cfgObs val r
  | .error _ => rfl
  | .ok o => by simp only [cfgO, cfgObs, py_eval, Obs.evalList_map, apply_ite (Obs.eval _)]

def cfgAgree (c : CfgCase) : Bool :=
  agreesP dictObs cfgEnv FUEL "json_extends" [wholeVal c.w, .str (nameStr c.p), objVal c.t, exclVal c.e] cfgSt
    (.leaf (cfgO (jsonExtends c.w c.p c.t (c.e.getD []))))

theorem config_src {c : CfgCase} (h : cfgAgree c = true) : CfgSpec K c.w c.p c.t c.e := fun val =>
  (resultG_eq_of_agreeP _ h).trans (cfgO_eval val _)

/-- the whole chain (every key takes the value of the nearest class that has it, in the order Python's
`dict(parent_items, **own)` produces); excluded fields are not inherited (but kept where the target itself has
them); a target without parent; a parent without parent; mutual extension; a missing parent; a class extending
itself (the target's own name opens the history) -/
def cfgCases : List CfgCase :=
  [⟨wABC, 13, tgt, none⟩, ⟨wABC, 13, tgt, some [2, 4]⟩, ⟨wABC, 13, [(1, 901), (3, 903)], none⟩,
   ⟨wABC, 13, [(0, 12), (3, 903)], some [3]⟩, ⟨wCyc, 13, tgt, some []⟩, ⟨wABC, 13, [(1, 901), (0, 14)], none⟩,
   ⟨wABC, 10, tgt, none⟩]

/-- source and model, both evaluated -/
theorem cfg_agree : ∀ c ∈ cfgCases, cfgAgree c = true := by decide +kernel

/-! ### `JsonRandom.random`: the random values of a configuration -/

/-- the generator: `random()` answers num atom 1, `gauss(mu, sigma)` num atom 2 -/
def jrExt : Ext := fun st recv fn args =>
  match recv, fn, args with
  | .ref 2, "random", [] => some (.num (.atom 1), st)
  | .ref 2, "gauss", [_, _] => some (.num (.atom 2), st)
  | _, _, _ => none

def jrHeap : Nat → String → Option Val :=
  fun addr => if addr = 1 then (fun f => match f with
    | "__class__" => some (.str "JsonRandom") | "prng" => some (.ref 2) | _ => none) else fun _ => none

def jrEnv : Env := { prog := PamsGen.Code.prog, globals := globals, ext := jrExt }
def jrSt : St := { heap := jrHeap, calls := [] }

/-- the result and the draws made (name of each extern call, in order) -/
def jrObs : Except Py.Err (Val × St) → Obs
  | .ok (v, st) => .tuple [Obs.ofVal v, .tuple (st.calls.reverse.map (fun c => Obs.str c.fn))]
  | .error e => .err e

/-- valuation: the uniform draw `u`, the Gaussian draw `g`, the two numbers `a`, `b` of the specification -/
def rhoJr (u g a b : K) : Rho K :=
  { i := fun _ => 0, n := fun k => if k = 1 then u else if k = 2 then g else if k = 10 then a else b, b := fun _ => false }

def na : Val := .num (.atom 10)
def nb : Val := .num (.atom 11)

section
open NTerm

/-- `u * (b - a) + a` after one `random()` -/
def uniformO : Obs := .tuple [.num (add (mul (atom 1) (sub (atom 11) (atom 10))) (atom 10)), .tuple [.str "random"]]
/-- `a`, no draw -/
def constO : Obs := .tuple [.num (atom 10), .tuple []]

/-- well-formed specifications, each with the value and the draws of the model -/
def jrCases : List (Val × Obs) :=
  [(.list [na, nb], uniformO), (.dict [.str "uniform"] [.list [na, nb]], uniformO),
   (.dict [.str "const"] [.list [na]], constO), (na, constO),
   (.dict [.str "normal"] [.list [na, nb]], .tuple [.num (atom 2), .tuple [.str "gauss"]]),
   (.dict [.str "expon"] [.list [na]], .tuple [.num (mul (atom 10) (neg (log (atom 1)))), .tuple [.str "random"]])]
end

def jrRefused : List Val :=
  [.list [na, nb, na], .dict [.str "const", .str "uniform"] [.list [na], .list [na, nb]],
   .dict [.str "gamma"] [.list [na]], .dict [.str "expon"] [.list [na, nb]], .dict [.str "uniform"] [na]]

theorem jr_agree : ∀ c ∈ jrCases ++ jrRefused.map (·, .err (.raise "ValueError")),
    agreesP jrObs jrEnv FUEL "JsonRandom.random" [.ref 1, c.1] jrSt (.leaf c.2) = true := by
  decide +kernel

/-- **a two-element list and `{"uniform": [a, b]}` are the model's `uniform u a b = u·(b − a) + a`** with one
draw `u = random()`; `{"const": [a]}` and a bare number are that number without any draw;
`{"normal": [a, b]}` is one `gauss(a, b)`; `{"expon": [a]}` is `a · −log(u)` with one draw -/
theorem json_random_src (u g a b : K) :
    resultG jrObs (rhoJr u g a b) jrEnv FUEL "JsonRandom.random" [.ref 1, .list [na, nb]] jrSt
      = .tuple [.num (Config.uniform u a b), .tuple [.str "random"]] ∧
    resultG jrObs (rhoJr u g a b) jrEnv FUEL "JsonRandom.random" [.ref 1, .dict [.str "uniform"] [.list [na, nb]]] jrSt
      = .tuple [.num (Config.uniform u a b), .tuple [.str "random"]] ∧
    resultG jrObs (rhoJr u g a b) jrEnv FUEL "JsonRandom.random" [.ref 1, .dict [.str "const"] [.list [na]]] jrSt
      = .tuple [.num a, .tuple []] ∧
    resultG jrObs (rhoJr u g a b) jrEnv FUEL "JsonRandom.random" [.ref 1, na] jrSt
      = .tuple [.num a, .tuple []] ∧
    resultG jrObs (rhoJr u g a b) jrEnv FUEL "JsonRandom.random" [.ref 1, .dict [.str "normal"] [.list [na, nb]]] jrSt
      = .tuple [.num g, .tuple [.str "gauss"]] ∧
    resultG jrObs (rhoJr u g a b) jrEnv FUEL "JsonRandom.random" [.ref 1, .dict [.str "expon"] [.list [na]]] jrSt
      = .tuple [.num (a * -(PyNum.log u)), .tuple [.str "random"]] := by
  have h := fun c hc => resultG_eq_of_agreeP (rhoJr u g a b) (jr_agree c (List.mem_append_left _ hc))
  simp only [jrCases, List.forall_mem_cons, List.not_mem_nil, false_imp_iff, implies_true, and_true] at h
  exact h

/-- ill-formed specifications are refused (`ValueError`) before any draw: a list that is not a pair, two
distribution keys, an unknown key, a wrong number of parameters, parameters that are not a list -/
theorem json_random_src_refusals (u g a b : K) :
    resultG jrObs (rhoJr u g a b) jrEnv FUEL "JsonRandom.random" [.ref 1, .list [na, nb, na]] jrSt = .err (.raise "ValueError") ∧
    resultG jrObs (rhoJr u g a b) jrEnv FUEL "JsonRandom.random"
        [.ref 1, .dict [.str "const", .str "uniform"] [.list [na], .list [na, nb]]] jrSt = .err (.raise "ValueError") ∧
    resultG jrObs (rhoJr u g a b) jrEnv FUEL "JsonRandom.random" [.ref 1, .dict [.str "gamma"] [.list [na]]] jrSt
      = .err (.raise "ValueError") ∧
    resultG jrObs (rhoJr u g a b) jrEnv FUEL "JsonRandom.random" [.ref 1, .dict [.str "expon"] [.list [na, nb]]] jrSt
      = .err (.raise "ValueError") ∧
    resultG jrObs (rhoJr u g a b) jrEnv FUEL "JsonRandom.random" [.ref 1, .dict [.str "uniform"] [na]] jrSt
      = .err (.raise "ValueError") := by
  have h := fun v hv => resultG_eq_of_agreeP (rhoJr u g a b)
    (jr_agree (v, _) (List.mem_append_right _ (List.mem_map_of_mem hv)))
  simp only [jrRefused, List.forall_mem_cons, List.not_mem_nil, false_imp_iff, implies_true, and_true] at h
  exact h

end Pams.Src
