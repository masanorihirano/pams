import Lean

/-- equations that read a symbolic term, observation or decision tree under a valuation, and the
look-up lemmas of the valuations (`(rhoM m a b d).i 13 = a.vol`, …) -/
register_simp_attr py_eval
