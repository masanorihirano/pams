import PamsLemmas.MatchLemmas
import PamsModel.History

set_option linter.unusedSectionVars false

namespace Pams
variable {P : Type} [LinearOrder P]

/-- the market invariant: both sides well-formed, ids identify orders, storage in step with the
clock -/
structure Inv (m : Market P) : Prop where
  buys : SideInv true m.time m.nextId m.buys
  sells : SideInv false m.time m.nextId m.sells
  disj : ∀ b ∈ m.buys, ∀ s ∈ m.sells, b.id ≠ s.id
  past : m.past.length = m.time

theorem refresh_past (ops : PriceOps P) (m : Market P) : (m.refresh ops).past = m.past := rfl
theorem refresh_time (ops : PriceOps P) (m : Market P) : (m.refresh ops).time = m.time := rfl
theorem refresh_running (ops : PriceOps P) (m : Market P) : (m.refresh ops).running = m.running := rfl
theorem refresh_buys (ops : PriceOps P) (m : Market P) : (m.refresh ops).buys = m.buys := rfl
theorem refresh_sells (ops : PriceOps P) (m : Market P) : (m.refresh ops).sells = m.sells := rfl

theorem Inv.refresh {m : Market P} (ops : PriceOps P) (h : Inv m) : Inv (m.refresh ops) :=
  ⟨h.buys, h.sells, h.disj, h.past⟩

theorem inv_init (ops : PriceOps P) (mp : P) (f : Option P) : Inv (Market.init ops mp f) :=
  ⟨SideInv.nil, SideInv.nil, by simp [Market.init], rfl⟩

theorem inv_addOrder (ops : PriceOps P) {m : Market P} (r : Req P) (h : Inv m) (hv : r.valid) :
    Inv (m.addOrder ops r).1 := by
  unfold Market.addOrder
  cases r.isBuy <;> simp only [Bool.false_eq_true, if_false, if_true]
  · exact ⟨h.buys.mono_id (Nat.le_succ _), h.sells.insert _ rfl hv rfl rfl,
      fun b hb' => forall_mem_insert.mpr ⟨Nat.ne_of_lt (h.buys.idlt b hb'), h.disj b hb'⟩, h.past⟩
  · exact ⟨h.buys.insert _ rfl hv rfl rfl, h.sells.mono_id (Nat.le_succ _),
      forall_mem_insert.mpr ⟨fun s hs => (Nat.ne_of_lt (h.sells.idlt s hs)).symm, h.disj⟩, h.past⟩

/-- the three ways `_cancel_order` returns normally: the order rests on the buy side, on the sell
side, or has left the book -/
theorem cancel_cases {ops : PriceOps P} {m m' : Market P} {id : Nat} {l : CancelLog P}
    (hc : m.cancel ops id = .ok (m', l)) :
    ∃ o : Order P,
      l = { id := o.id, cancelTime := m.time, orderTime := o.placedAt, agent := o.agent,
            isBuy := o.isBuy, price := o.price, vol := o.vol, ttl := o.ttl } ∧
      ((findOrder id m.buys = some o ∧
          m' = ({ m with buys := Book.remove id m.buys,
                         gone := (o, Gone.canceled) :: m.gone } : Market P).refresh ops) ∨
       (findOrder id m.sells = some o ∧
          m' = ({ m with sells := Book.remove id m.sells,
                         gone := (o, Gone.canceled) :: m.gone } : Market P).refresh ops) ∨
       ((∃ gn, m.gone.find? (fun g => g.1.id = id) = some (o, gn)) ∧ m' = m.refresh ops)) := by
  unfold Market.cancel at hc
  split at hc
  · rename_i o hfo
    cases hc
    exact ⟨o, rfl, Or.inl ⟨hfo, rfl⟩⟩
  · split at hc
    · rename_i o hfo
      cases hc
      exact ⟨o, rfl, Or.inr (Or.inl ⟨hfo, rfl⟩)⟩
    · split at hc
      · rename_i o gn hfg
        cases hc
        exact ⟨o, rfl, Or.inr (Or.inr ⟨⟨gn, hfg⟩, rfl⟩)⟩
      · cases hc

theorem inv_cancel {ops : PriceOps P} {m m' : Market P} {id : Nat} {l : CancelLog P} (h : Inv m)
    (hc : m.cancel ops id = .ok (m', l)) : Inv m' := by
  obtain ⟨o, -, ⟨-, rfl⟩ | ⟨-, rfl⟩ | ⟨-, rfl⟩⟩ := cancel_cases hc
  · exact ⟨h.buys.filter _, h.sells, fun b hb s hs => h.disj b (mem_remove.mp hb).1 s hs, h.past⟩
  · exact ⟨h.buys, h.sells.filter _, fun b hb s hs => h.disj b hb s (mem_remove.mp hs).1, h.past⟩
  · exact h.refresh ops

theorem inv_tick (ops : PriceOps P) {m : Market P} (f : Option P) (h : Inv m) :
    Inv (m.tick ops f).1 :=
  ⟨h.buys.jump 1, h.sells.jump 1,
    fun b hb s hs => h.disj b (List.mem_filter.mp hb).1 s (List.mem_filter.mp hs).1,
    by simp [Market.tick, h.past]⟩

theorem inv_setTime (ops : PriceOps P) {m : Market P} (k : Nat) (f : Option P) (h : Inv m) (hk : 1 ≤ k) :
    Inv (m.setTime ops k f).1 := by
  refine ⟨h.buys.jump k, h.sells.jump k,
    fun b hb s hs => h.disj b (List.mem_filter.mp hb).1 s (List.mem_filter.mp hs).1, ?_⟩
  simp only [Market.setTime, List.length_append, List.length_replicate, List.length_cons, h.past]
  omega

theorem guard_eq_ok {ε α : Type} {c : Prop} [Decidable c] {e : ε} {x : Except ε α} {r : α} :
    (if c then .error e else x) = .ok r ↔ ¬ c ∧ x = .ok r := by
  by_cases hc : c <;> simp [hc]

/-- when `_execution` returns normally: nothing is executable and nothing happens; or the walk finds
a price and its result is settled, it trades only if the market is running, and no guard fires
(the post-condition `stillExecutable` never does: `walk_resid_not_executable`) -/
theorem execution_eq_ok {ops : PriceOps P} {m : Market P} {r : Market P × List (Fill P)} :
    m.execution ops = .ok r ↔
      (remainExecutable m.buys m.sells = false ∧ r = (m, [])) ∨
      (remainExecutable m.buys m.sells = true ∧
        ∃ price, roundPrice (walk m.buys m.sells).1 = some price ∧
          r = m.settle ops (walk m.buys m.sells) price ∧
          ((walk m.buys m.sells).1 ≠ [] → m.running = true) ∧
          (∀ o ∈ m.buys, o.vol ≠ 0) ∧ (∀ o ∈ m.sells, o.vol ≠ 0) ∧
          ∀ b ∈ m.buys, ∀ s ∈ m.sells, b.id ≠ s.id) := by
  unfold Market.execution
  by_cases h1 : remainExecutable m.buys m.sells = false
  · rw [if_pos h1]
    simp only [h1, Except.ok.injEq, true_and, Bool.false_eq_true, false_and, or_false]
    exact eq_comm
  · rw [if_neg h1, guard_eq_ok, guard_eq_ok]
    have h1' : remainExecutable m.buys m.sells = true := by simpa using h1
    rcases hrp : roundPrice (walk m.buys m.sells).1 with _ | price
    · simp [h1']
    · simp only [guard_eq_ok, walk_resid_not_executable, h1', Bool.true_eq_false, false_and,
        false_or, true_and, Except.ok.injEq, Option.some.injEq, exists_eq_left', Bool.false_eq_true,
        not_false_eq_true, Bool.or_eq_true, List.any_eq_true, decide_eq_true_eq, not_or,
        not_exists, not_and, and_assoc, eq_comm (a := r), Bool.not_eq_false, ne_eq]
      -- `simp` leaves the guards in the order of `Market.execution`: no zero volume on either side (a, b),
      -- no common id (c), running if anything trades (d), the result (e); the statement has e, d first
      exact ⟨fun ⟨a, b, c, d, e⟩ => ⟨e, d, a, b, c⟩, fun ⟨e, d, a, b, c⟩ => ⟨a, b, c, d, e⟩⟩

theorem fill_of_execution {ops : PriceOps P} {m m' : Market P} {fs : List (Fill P)}
    (he : m.execution ops = .ok (m', fs)) {f : Fill P} (hf : f ∈ fs) :
    ∃ price, roundPrice (walk m.buys m.sells).1 = some price ∧
      m' = (m.settle ops (walk m.buys m.sells) price).1 ∧
      ∃ pr ∈ (walk m.buys m.sells).1, f = mkFill m.time price pr := by
  rcases execution_eq_ok.mp he with ⟨-, e⟩ | ⟨-, price, hrp, e, -⟩ <;> cases e
  · cases hf
  · obtain ⟨pr, hpr, rfl⟩ := List.mem_map.mp hf
    exact ⟨price, hrp, rfl, pr, hpr, rfl⟩

/-- a round without fills changes nothing: a walk that pairs nothing has no round price -/
theorem execution_nil {ops : PriceOps P} {m m' : Market P} (he : m.execution ops = .ok (m', [])) :
    m' = m := by
  rcases execution_eq_ok.mp he with ⟨-, e⟩ | ⟨-, price, hrp, e, -⟩
  · exact congrArg Prod.fst e
  · rw [List.map_eq_nil_iff.mp (congrArg Prod.snd e).symm] at hrp
    cases hrp

theorem inv_settle (ops : PriceOps P) {m : Market P} (price : P) (h : Inv m) :
    Inv (m.settle ops (walk m.buys m.sells) price).1 := by
  unfold Market.settle
  apply Inv.refresh
  have hr := walk_resid_inv h.buys h.sells
  refine ⟨hr.1, hr.2, ?_, h.past⟩
  intro b hb s hs
  obtain ⟨b0, hb0, hsb⟩ := (walk_resid_mem m.buys m.sells).1 b hb
  obtain ⟨s0, hs0, hss⟩ := (walk_resid_mem m.buys m.sells).2 s hs
  rw [hsb.id, hss.id]
  exact h.disj b0 hb0 s0 hs0

theorem step_add_ok {ops : PriceOps P} {m m' : Market P} {a b : Bool} {r : Req P} {l : OrderLog P}
    (h : m.submit ops a b r = .ok (m', l)) : m.step ops (.add r) = (m', [Rec.order l]) := by
  cases a <;> cases b <;> simp [Market.submit] at h
  simp [Market.step, h]

theorem step_cancel_ok {ops : PriceOps P} {m m' : Market P} {id : Nat} {l : CancelLog P}
    (h : m.cancel ops id = .ok (m', l)) : m.step ops (.cancel id) = (m', [Rec.cancel l]) := by
  simp only [Market.step, h]

theorem step_exec_ok {ops : PriceOps P} {m m' : Market P} {fs : List (Fill P)}
    (h : m.execution ops = .ok (m', fs)) : m.step ops .exec = (m', fs.map Rec.fill) := by
  simp only [Market.step, h]

theorem step_refused {ops : PriceOps P} {m : Market P} :
    (∀ id e, m.cancel ops id = .error e → m.step ops (.cancel id) = (m, [])) ∧
    (∀ e, m.execution ops = .error e → m.step ops .exec = (m, [])) :=
  ⟨fun id e h => by simp only [Market.step, h], fun e h => by simp only [Market.step, h]⟩

theorem step_cancel (ops : PriceOps P) (m : Market P) (id : Nat) :
    m.step ops (.cancel id) = (m, []) ∨
    ∃ m' l, m.cancel ops id = .ok (m', l) ∧ m.step ops (.cancel id) = (m', [Rec.cancel l]) := by
  rcases h : m.cancel ops id with e | ⟨m', l⟩
  · exact .inl (step_refused.1 id e h)
  · exact .inr ⟨m', l, rfl, step_cancel_ok h⟩

theorem step_exec (ops : PriceOps P) (m : Market P) :
    m.step ops .exec = (m, []) ∨
    ∃ price, roundPrice (walk m.buys m.sells).1 = some price ∧
      m.step ops .exec = ((m.settle ops (walk m.buys m.sells) price).1,
        ((walk m.buys m.sells).1.map (mkFill m.time price)).map Rec.fill) := by
  rcases he : m.execution ops with e | ⟨m', fs⟩
  · exact .inl (step_refused.2 e he)
  · rw [step_exec_ok he]
    rcases execution_eq_ok.mp he with ⟨-, e⟩ | ⟨-, price, hrp, e, -⟩ <;> cases e
    · exact .inl rfl
    · exact .inr ⟨price, hrp, rfl⟩

theorem inv_step (ops : PriceOps P) (m : Market P) (o : Op P) (h : Inv m) (hv : o.valid) :
    Inv (m.step ops o).1 := by
  cases o with
  | add r => exact inv_addOrder ops r h hv
  | cancel id =>
    rcases step_cancel ops m id with h' | ⟨m', l, hc, h'⟩ <;> rw [h']
    · exact h
    · exact inv_cancel h hc
  | exec =>
    rcases step_exec ops m with h' | ⟨price, -, h'⟩ <;> rw [h']
    · exact h
    · exact inv_settle ops price h
  | tick f => exact inv_tick ops f h
  | jump k f => exact inv_setTime ops (k + 1) f h (by omega)
  | setRunning b => exact ⟨h.buys, h.sells, h.disj, h.past⟩
  | setFund f => exact ⟨h.buys, h.sells, h.disj, h.past⟩

theorem inv_runOps (ops : PriceOps P) (m : Market P) (os : List (Op P)) (h : Inv m)
    (hv : ∀ o ∈ os, o.valid) : Inv (m.runOps ops os).1 := by
  induction os generalizing m with
  | nil => exact h
  | cons o os ih =>
    have hv' := List.forall_mem_cons.mp hv
    exact ih _ (inv_step ops m o h hv'.1) hv'.2

/-- C03: on every state satisfying the invariant a matching round of a running market succeeds
(no `Err` branch is reachable). -/
theorem execution_ok (ops : PriceOps P) (m : Market P) (h : Inv m) (hrun : m.running = true) :
    ∃ r, m.execution ops = .ok r := by
  cases hex : remainExecutable m.buys m.sells
  · exact ⟨_, execution_eq_ok.mpr (Or.inl ⟨hex, rfl⟩)⟩
  · rcases hrp : roundPrice (walk m.buys m.sells).1 with _ | price
    · exact absurd hrp
        (roundPrice_some_of_executable m.buys m.sells h.buys.sorted h.sells.sorted hex)
    · exact ⟨_, execution_eq_ok.mpr (Or.inr ⟨hex, price, hrp, rfl, fun _ => hrun,
        fun o ho => Nat.ne_of_gt (h.buys.pos o ho), fun o ho => Nat.ne_of_gt (h.sells.pos o ho),
        h.disj⟩)⟩

end Pams
