/-
The market's time-indexed getters as they stand in /repo (translated: `PamsGen.Code`):
`_extract_data_by_time` and the getters built on it (`get_market_price`, `get_mid_price`,
`get_last_executed_price`, `get_fundamental_price`, `get_executed_volume`, `get_executed_total_price`,
`get_n_buy_order`, `get_n_sell_order`) — by symbolic execution, for a *quantified query time*.

Setting: a market (address 5) whose clock is the int atom 1 and whose series have four slots: slot `k` of
the market price series is num atom `10 + k`, of the fundamental series `20 + k`; the mid / last-trade
series hold `None` in slot 1 (no quote / no trade in that step) and atoms `30 + k` / `40 + k` elsewhere;
the integer series (volume, counts) int atoms `50 + k`, `60 + k`, `70 + k`, turnover num atoms `80 + k`.
-/
import PamsLemmas.Agree
import PamsGen.Code
import PamsLemmas.SrcOrder

namespace Pams.Src
open Pams Pams.Py

variable {K : Type}

def seriesN (base : Nat) : Val := .list ((List.range 4).map (fun k => .num (.atom (base + k))))
def seriesI (base : Nat) : Val := .list ((List.range 4).map (fun k => .int (.atom (base + k))))
def seriesOpt (base : Nat) : Val :=
  .list ((List.range 4).map (fun k => if k = 1 then Val.none else .num (.atom (base + k))))

def getMarket : String → Option Val
  | "__class__" => some (.str "Market")
  | "time" => some (.int (.atom 1))
  | "_market_prices" => some (seriesN 10)
  | "_fundamental_prices" => some (seriesN 20)
  | "_mid_prices" => some (seriesOpt 30)
  | "_last_executed_prices" => some (seriesOpt 40)
  | "_executed_volumes" => some (seriesI 50)
  | "_n_buy_orders" => some (seriesI 60)
  | "_n_sell_orders" => some (seriesI 70)
  | "_executed_total_prices" => some (seriesN 80)
  | _ => none

def getSt : St := { heap := fun a => if a = 5 then getMarket else fun _ => none, calls := [] }
def getEnv : Env := { prog := PamsGen.Code.prog, globals := globals, ext := fun _ _ _ _ => none, mro := PamsGen.Code.mroOf }

/-- a query without a time (`None`: the current time) -/
def getNowPaths (fn : String) := obsPathsPG obs getEnv FUEL ("Market." ++ fn) [.ref 5] getSt

/-- valuation: the clock `now`, the query time `q`, the series as functions of the slot -/
def rhoGet (now q : Int) (num : Nat → K) (int : Nat → Int) : Rho K :=
  { i := fun k => if k = 1 then now else if k = 2 then q else int k
    n := fun k => num k
    b := fun _ => false }

section
variable (now q : Int) (num : Nat → K) (int : Nat → Int)
@[py_eval] theorem rhoGet_i1 : (rhoGet now q num int).i 1 = now := rfl
@[py_eval] theorem rhoGet_i2 : (rhoGet now q num int).i 2 = q := rfl
@[py_eval] theorem rhoGet_n (k : Nat) : (rhoGet now q num int).n k = num k := rfl
theorem rhoGet_i (k : Nat) (hk : 3 ≤ k) : (rhoGet now q num int).i k = int k := by
  have h1 : k ≠ 1 := by omega
  have h2 : k ≠ 2 := by omega
  simp only [rhoGet, h1, h2, if_false]
end

variable [LinearOrder K] [NumOpsC K]

/-! ### the model side: a series read at the time in int atom 2

as `_extract_data_by_time` reads it — refused if later than the clock (int atom 1), else the list
element at that index, which Python looks up from the front and, for a negative index, from the back. -/
section tree
open ITerm BTerm Tree

/-- `l[k]` where the index atom equals `i + k * step`, else `other` -/
def scanT (i step : Int) : List Obs → Tree Obs → Tree Obs
  | [], other => other
  | o :: os, other => node (ieq (atom 2) (lit i)) (fun _ => leaf o) (fun _ => scanT (i + step) step os other)

def getT (slots : List Obs) : Tree Obs :=
  node (ilt (atom 1) (atom 2)) (fun _ => raiseT "AssertionError")
    (fun _ => scanT 0 1 slots (scanT (-1) (-1) slots.reverse (raiseT "IndexError")))
end tree

def slotsOf : Val → List Obs
  | .list l => l.map Obs.ofVal
  | _ => []

/-- the time-indexed getters and the series each reads -/
def getters : List (String × Val) :=
  [("get_market_price", seriesN 10), ("get_fundamental_price", seriesN 20), ("get_mid_price", seriesOpt 30),
   ("get_last_executed_price", seriesOpt 40), ("get_executed_volume", seriesI 50),
   ("get_executed_total_price", seriesN 80), ("get_n_buy_order", seriesI 60), ("get_n_sell_order", seriesI 70)]

theorem getters_agree : ∀ g ∈ getters, agreesP obs getEnv FUEL ("Market." ++ g.1) [.ref 5, .int (.atom 2)] getSt
    (getT (slotsOf g.2)) = true := by
  decide +kernel

theorem scanT_denote (ρ : Rho K) : ∀ (l : List Obs) (i : Int) (other : Tree Obs) (k : Nat) (o : Obs),
    l[k]? = some o → ρ.i 2 = i + k → (scanT i 1 l other).denote ρ = o
  | [], _, _, _, _, h, _ => by simp at h
  | x :: xs, i, other, 0, o, h, hq => by
    simp only [List.getElem?_cons_zero, Option.some.injEq] at h
    simp [scanT, py_eval, hq, h]
  | x :: xs, i, other, k + 1, o, h, hq => by
    have hne : ρ.i 2 ≠ i := by omega
    simp only [scanT, py_eval, hne, decide_false, Bool.false_eq_true, if_false]
    exact scanT_denote ρ xs (i + 1) other k o (by simpa using h) (by omega)

variable (now q : Int) (num : Nat → K) (int : Nat → Int)

theorem getT_denote_past (slots : List Obs) (o : Obs) (h0 : 0 ≤ q) (h1 : q ≤ now) (ho : slots[q.toNat]? = some o) :
    ((getT slots).denote (rhoGet now q num int)).eval (rhoGet now q num int) = o.eval (rhoGet now q num int) := by
  have hn : ¬ now < q := by omega
  simp only [getT, py_eval, hn, decide_false, Bool.false_eq_true, if_false]
  rw [scanT_denote _ slots 0 _ q.toNat o ho (by simp only [py_eval]; omega)]

/-- **a query for a time later than the clock is refused** — by every getter, for every clock value and
every later query time, before any slot is read -/
theorem getters_src_future_refused (now q : Int) (num : Nat → K) (int : Nat → Int) (h : now < q) :
    ∀ fn ∈ ["get_market_price", "get_fundamental_price", "get_mid_price", "get_last_executed_price",
            "get_executed_volume", "get_executed_total_price", "get_n_buy_order", "get_n_sell_order"],
      resultG obs (rhoGet now q num int) getEnv FUEL ("Market." ++ fn) [.ref 5, .int (.atom 2)] getSt
        = .err (.raise "AssertionError") := by
  intro fn hfn
  obtain ⟨g, hg, rfl⟩ := List.mem_map.1 (show fn ∈ getters.map Prod.fst from hfn)
  rw [resultG_eq_of_agreeP _ (getters_agree g hg)]
  simp [getT, py_eval, h]

/-- **every time-indexed getter answers a query `0 ≤ q ≤ now` with slot `q` of its series** -/
theorem getters_src_past (g : String × Val) (hg : g ∈ getters) (o : Obs) (h0 : 0 ≤ q) (h1 : q ≤ now)
    (ho : (slotsOf g.2)[q.toNat]? = some o) :
    resultG obs (rhoGet now q num int) getEnv FUEL ("Market." ++ g.1) [.ref 5, .int (.atom 2)] getSt
      = o.eval (rhoGet now q num int) := by
  rw [resultG_eq_of_agreeP _ (getters_agree g hg), getT_denote_past now q num int _ _ h0 h1 ho]

theorem slots_seriesN (base k : Nat) (hk : k < 4) : (slotsOf (seriesN base))[k]? = some (.num (.atom (base + k))) := by
  simp [slotsOf, seriesN, List.getElem?_range hk, Obs.ofVal]

theorem slots_seriesI (base k : Nat) (hk : k < 4) : (slotsOf (seriesI base))[k]? = some (.int (.atom (base + k))) := by
  simp [slotsOf, seriesI, List.getElem?_range hk, Obs.ofVal]

/-- **a query for a past or the present time answers the recorded slot**: the market price, the
fundamental price and the executed volume of slot `q` (`0 ≤ q ≤ now < 4`) -/
theorem getters_src_past_answered (now q : Int) (num : Nat → K) (int : Nat → Int) (h0 : 0 ≤ q) (h1 : q ≤ now)
    (h2 : now < 4) :
    resultG obs (rhoGet now q num int) getEnv FUEL "Market.get_market_price" [.ref 5, .int (.atom 2)] getSt
      = .num (num (10 + q.toNat)) ∧
    resultG obs (rhoGet now q num int) getEnv FUEL "Market.get_fundamental_price" [.ref 5, .int (.atom 2)] getSt
      = .num (num (20 + q.toNat)) ∧
    resultG obs (rhoGet now q num int) getEnv FUEL "Market.get_executed_volume" [.ref 5, .int (.atom 2)] getSt
      = .int (int (50 + q.toNat)) := by
  have hk : q.toNat < 4 := by omega
  refine ⟨?_, ?_, ?_⟩
  · refine (getters_src_past now q num int ("get_market_price", seriesN 10) (by simp [getters]) _ h0 h1 (slots_seriesN 10 _ hk)).trans ?_
    simp only [py_eval]
  · refine (getters_src_past now q num int ("get_fundamental_price", seriesN 20) (by simp [getters]) _ h0 h1 (slots_seriesN 20 _ hk)).trans ?_
    simp only [py_eval]
  · refine (getters_src_past now q num int ("get_executed_volume", seriesI 50) (by simp [getters]) _ h0 h1 (slots_seriesI 50 _ hk)).trans ?_
    rw [Obs.eval, ITerm.eval, rhoGet_i now q num int (50 + q.toNat) (by omega)]

end Pams.Src
