/-
What the scheduler of the closed-loop model does to the markets, family by family, each an instance
of the induction of `SimGlue`: every market goes through a history of market operations (`Tracks`);
which operations are performed (`SOut.Only`: valid operations, no clock operation while orders are
placed, no round while the flag is off); clocks; the numbering of fills against ledger updates and
notifications (`SOut.Numbered`).
-/
import PamsModel.Sim
import PamsLemmas.MarketLemmas
import PamsLemmas.SeriesLemmas
import PamsLemmas.RunnerLemmas
import PamsLemmas.SimGlue

namespace Pams.Sim
open Pams Pams.Runner

variable {P : Type} [LinearOrder P]

def opsFor (k : Nat) (l : List (MOp P)) : List (Op P) := (l.filter (fun x => x.1 = k)).map (·.2)
def recsFor (k : Nat) (l : List (MRec P)) : List (Rec P) := (l.filter (fun x => x.1 = k)).map (·.2)

@[simp] theorem opsFor_nil (k : Nat) : opsFor k ([] : List (MOp P)) = [] := rfl
@[simp] theorem recsFor_nil (k : Nat) : recsFor k ([] : List (MRec P)) = [] := rfl
@[simp] theorem opsFor_append (k : Nat) (a b : List (MOp P)) : opsFor k (a ++ b) = opsFor k a ++ opsFor k b := by
  simp [opsFor]
@[simp] theorem recsFor_append (k : Nat) (a b : List (MRec P)) :
    recsFor k (a ++ b) = recsFor k a ++ recsFor k b := by
  simp [recsFor]

theorem opsFor_cons (k m : Nat) (o : Op P) (l : List (MOp P)) :
    opsFor k ((m, o) :: l) = if m = k then o :: opsFor k l else opsFor k l := by
  unfold opsFor
  by_cases h : m = k <;> simp [h]

theorem recsFor_cons (k m : Nat) (o : Rec P) (l : List (MRec P)) :
    recsFor k ((m, o) :: l) = if m = k then o :: recsFor k l else recsFor k l := by
  unfold recsFor
  by_cases h : m = k <;> simp [h]

theorem recsFor_map (k m : Nat) (l : List (Rec P)) :
    recsFor k (l.map (fun r => (m, r))) = if m = k then l else [] := by
  simp only [recsFor, List.filter_map, Function.comp_def, List.map_map, List.map_id']
  split <;> simp [*]

theorem opsFor_forall {p : Op P → Prop} {l : List (MOp P)} (h : ∀ x ∈ l, p x.2) (k : Nat) :
    ∀ o ∈ opsFor k l, p o := by
  intro o ho
  obtain ⟨x, hx, rfl⟩ := List.mem_map.mp ho
  exact h x (List.mem_filter.mp hx).1

theorem runOps_append (ops : PriceOps P) (m : Market P) (a b : List (Op P)) :
    m.runOps ops (a ++ b) =
      (((m.runOps ops a).1.runOps ops b).1, (m.runOps ops a).2 ++ ((m.runOps ops a).1.runOps ops b).2) := by
  induction a generalizing m with
  | nil => simp [Market.runOps]
  | cons o os ih =>
    simp only [List.cons_append, Market.runOps]
    rw [ih]
    simp [List.append_assoc]

/-- the markets `f'` and the records `recs` are what running the logged operations `ops`, market by market,
from the markets `f` gives -/
def Tracks (po : Nat → PriceOps P) (f f' : Nat → Market P) (ops : List (MOp P)) (recs : List (MRec P)) : Prop :=
  ∀ k, (f k).runOps (po k) (opsFor k ops) = (f' k, recsFor k recs)

theorem Tracks.refl {po : Nat → PriceOps P} {f : Nat → Market P} : Tracks po f f [] [] := fun _ => rfl

theorem Tracks.trans {po : Nat → PriceOps P} {f f' f'' : Nat → Market P} {o1 o2 : List (MOp P)}
    {r1 r2 : List (MRec P)} (h1 : Tracks po f f' o1 r1) (h2 : Tracks po f' f'' o2 r2) :
    Tracks po f f'' (o1 ++ o2) (r1 ++ r2) := by
  intro k
  rw [opsFor_append, runOps_append, h1 k]
  simp only
  rw [h2 k, recsFor_append]

theorem Tracks.single (po : Nat → PriceOps P) (f : Nat → Market P) (m : Nat) (o : Op P) :
    Tracks po f (setMk f m ((f m).step (po m) o).1) [(m, o)]
      (((f m).step (po m) o).2.map (fun r => (m, r))) := by
  intro k
  rw [opsFor_cons, recsFor_map, setMk]
  by_cases h : m = k
  · subst h
    simp [Market.runOps]
  · simp [Market.runOps, h, Ne.symm h]

theorem Tracks.setRunnings (po : Nat → PriceOps P) (f : Nat → Market P) (w : List (Nat × Bool)) :
    Tracks po f (setRunnings f w) (w.map (fun x => (x.1, Op.setRunning x.2))) [] := by
  induction w generalizing f with
  | nil => exact .refl
  | cons x w ih =>
    simpa [Market.step, Sim.setRunnings] using (Tracks.single po f x.1 (Op.setRunning x.2)).trans (ih _)

theorem Tracks.setFunds (po : Nat → PriceOps P) (f : Nat → Market P) (w : List (Nat × Option P)) :
    Tracks po f (setFunds f w) (w.map (fun x => (x.1, Op.setFund x.2))) [] := by
  induction w generalizing f with
  | nil => exact .refl
  | cons x w ih =>
    simpa [Market.step, Sim.setFunds] using (Tracks.single po f x.1 (Op.setFund x.2)).trans (ih _)

section Resolve

variable {po : Nat → PriceOps P} {s : State P} {flag : Bool} {q : SReq P}

/-- an accepted request is one market operation that writes one record -/
theorem marketCall_cases {s1 : State P} {r1 : List (MRec P)} {o1 : List (MOp P)}
    (h : marketCall po s q = some (s1, r1, o1)) :
    ∃ m' o r, (s.mkt q.market).step (po q.market) o = (m', [r]) ∧
      s1 = { s with mkt := setMk s.mkt q.market m' } ∧ r1 = [(q.market, r)] ∧ o1 = [(q.market, o)] ∧
      ((q.isCancel = true ∧ o = .cancel q.cancelId ∧ ∃ l, r = .cancel l) ∨
       (q.isCancel = false ∧ o = .add q.req ∧ ∃ l, r = .order l)) := by
  unfold marketCall at h
  split at h
  · next hc =>
    split at h
    · cases h
    · split at h
      · next m' l hr =>
        cases h
        exact ⟨m', _, _, step_cancel_ok hr, rfl, rfl, rfl, .inl ⟨hc, rfl, l, rfl⟩⟩
      · cases h
  · next hc =>
    split at h
    · next m' l hr =>
      cases h
      exact ⟨m', _, _, step_add_ok hr, rfl, rfl, rfl, .inr ⟨by simpa using hc, rfl, l, rfl⟩⟩
    · cases h

/-- a round that did not raise is one `exec` operation followed by the running-switch writes of the
after-execution handlers -/
theorem roundCall_some {s2 : State P} {rf : List RFill} {r2 : List (MRec P)} {o2 : List (MOp P)}
    (h : roundCall po s q = some (s2, rf, r2, o2)) :
    ∃ m' fs, (s.mkt q.market).execution (po q.market) = .ok (m', fs) ∧
      s2 = { mkt := setRunnings (setMk s.mkt q.market m') (fxOps q 0 fs.length), nfill := s.nfill + fs.length } ∧
      rf = rfills q s.nfill 0 fs ∧ r2 = fs.map (fun f => (q.market, Rec.fill f)) ∧
      o2 = (q.market, Op.exec) :: (fxOps q 0 fs.length).map (fun x => (x.1, Op.setRunning x.2)) := by
  unfold roundCall at h
  split at h
  · cases h
  · next m' fs he =>
    cases h
    exact ⟨m', fs, he, rfl, rfl, rfl, rfl⟩

/-- the three ways a request is resolved: refused; accepted and not followed by a round that
returns; accepted and followed by a round -/
theorem resolve_cases (po : Nat → PriceOps P) (s : State P) (flag : Bool) (q : SReq P) :
    resolve po s flag q = (s, baseRequest q false none, [], []) ∨
    ∃ s1 r1 o1, marketCall po s q = some (s1, r1, o1) ∧
      (resolve po s flag q = (s1, baseRequest q true none, r1, o1) ∨
       flag = true ∧ ∃ s2 rf r2 o2, roundCall po s1 q = some (s2, rf, r2, o2) ∧
         resolve po s flag q = (s2, baseRequest q true (some rf), r1 ++ r2, o1 ++ o2)) := by
  unfold resolve
  rcases marketCall po s q with _ | ⟨s1, r1, o1⟩
  · exact .inl rfl
  · refine .inr ⟨s1, r1, o1, rfl, ?_⟩
    dsimp only
    cases flag
    · exact .inl rfl
    · rcases roundCall po s1 q with _ | ⟨s2, rf, r2, o2⟩
      · exact .inl rfl
      · exact .inr ⟨rfl, s2, rf, r2, o2, rfl, rfl⟩

theorem resolve_only (p : Op P → Prop) (hadd : q.isCancel = false → p (.add q.req)) (hcancel : p (.cancel q.cancelId))
    (hround : flag = true → p .exec ∧ ∀ b, p (.setRunning b)) : ∀ x ∈ (resolve po s flag q).2.2.2, p x.2 := by
  rcases resolve_cases po s flag q with h | ⟨s1, r1, o1, hm, h⟩
  · rw [h]; exact List.forall_mem_nil _
  · obtain ⟨m', o, r, -, -, -, rfl, ho⟩ := marketCall_cases hm
    have h1 : p o := by
      rcases ho with ⟨_, rfl, _⟩ | ⟨hc, rfl, _⟩
      · exact hcancel
      · exact hadd hc
    rcases h with h | ⟨hf, s2, rf, r2, o2, hr, h⟩ <;> rw [h]
    · simpa using h1
    · obtain ⟨m2, fs, -, -, -, -, rfl⟩ := roundCall_some hr
      simp only [List.singleton_append, List.forall_mem_cons, List.forall_mem_map]
      exact ⟨h1, (hround hf).1, fun _ _ => (hround hf).2 _⟩

theorem marketCall_tracks {s1 : State P} {r1 : List (MRec P)} {o1 : List (MOp P)}
    (h : marketCall po s q = some (s1, r1, o1)) : Tracks po s.mkt s1.mkt o1 r1 := by
  obtain ⟨m', o, r, hstep, rfl, rfl, rfl, _⟩ := marketCall_cases h
  simpa [hstep] using Tracks.single po s.mkt q.market o

theorem roundCall_tracks {s2 : State P} {rf : List RFill} {r2 : List (MRec P)} {o2 : List (MOp P)}
    (h : roundCall po s q = some (s2, rf, r2, o2)) : Tracks po s.mkt s2.mkt o2 r2 := by
  obtain ⟨m', fs, he, rfl, _, rfl, rfl⟩ := roundCall_some h
  have h1 := Tracks.single po s.mkt q.market Op.exec
  rw [step_exec_ok he] at h1
  simpa [Function.comp_def] using h1.trans (Tracks.setRunnings po (setMk s.mkt q.market m') (fxOps q 0 fs.length))

end Resolve

def SOut.Tracks (po : Nat → PriceOps P) (s : State P) (a : SOut P) : Prop :=
  Sim.Tracks po s.mkt a.st.mkt a.ops a.recs

theorem tracks_glue (po : Nat → PriceOps P) : Glue (fun s _ a => a.Tracks po s) where
  emit _ _ _ _ _ := .refl
  seq := .trans

theorem processRequest_tracks (po : Nat → PriceOps P) (q : SReq P) (t : Nat) (s : State P) (flag : Bool) :
    (processRequest po t s flag q).Tracks po s := by
  unfold SOut.Tracks processRequest
  rcases resolve_cases po s flag q with h | ⟨s1, r1, o1, hm, h | ⟨_, s2, rf, r2, o2, hr, h⟩⟩ <;> rw [h]
  · exact .refl
  · exact marketCall_tracks hm
  · exact (marketCall_tracks hm).trans (roundCall_tracks hr)

theorem stepBefore_tracks {po : Nat → PriceOps P} {t : Nat} {resume : Nat → StepFx P} {ms : Markets}
    {f : Nat → Market P} {flag : Bool} :
    Tracks po f (stepBefore t resume ms f flag).2.1 (stepBefore t resume ms f flag).2.2.2 [] := by
  induction ms generalizing f flag with
  | nil => exact .refl
  | cons m ms ih =>
    simpa [stepBefore, List.append_assoc] using
      ((Tracks.setRunnings po f (resume m.1).running).trans (Tracks.setFunds po _ (resume m.1).fund)).trans ih

theorem tickAll_tracks {po : Nat → PriceOps P} {fund : Nat → Option P} {ms : List Nat} {f : Nat → Market P} :
    Tracks po f (tickAll po fund ms f).1 (tickAll po fund ms f).2.2 (tickAll po fund ms f).2.1 := by
  induction ms generalizing f with
  | nil => exact .refl
  | cons m ms ih =>
    simpa [tickAll, Market.step, Function.comp_def] using (Tracks.single po f m (Op.tick (fund m))).trans ih

theorem tracks_glueStep (po : Nat → PriceOps P) (tp : StepTape P) : Glue.Step po (fun s _ a => a.Tracks po s) tp where
  answer _ q _ := processRequest_tracks po q
  rounds _ _ _ q _ := processRequest_tracks po q
  before _ _ _ _ := stepBefore_tracks
  after _ _ _ _ := tickAll_tracks

/-- **every market inside a simulation goes through a history of market operations from its
initial state**, and the records the simulation wrote for it are that history's records -/
theorem run_tracks (po : Nat → PriceOps P) (ms : Markets) (price : Nat → P) (fund0 : Nat → Option P)
    (cfgs : List SessionCfg) (tapes : List (List (StepTape P))) (k : Nat) :
    (Market.init (po k) (price k) (fund0 k)).runOps (po k) (opsFor k (run po ms price fund0 cfgs tapes).ops) =
      ((run po ms price fund0 cfgs tapes).st.mkt k, recsFor k (run po ms price fund0 cfgs tapes).recs) :=
  (tracks_glue po).run (fun _ _ => .refl) (fun _ _ _ s _ => Tracks.setRunnings po s.mkt _)
    (tracks_glueStep po _) (fun _ _ tp _ => tracks_glueStep po tp) price fund0 k

theorem stepBefore_only (p : Op P → Prop) (hr : ∀ b, p (.setRunning b)) (hf : ∀ v, p (.setFund v)) {t : Nat}
    {resume : Nat → StepFx P} {ms : Markets} {f : Nat → Market P} {flag : Bool} :
    ∀ x ∈ (stepBefore t resume ms f flag).2.2.2, p x.2 := by
  induction ms generalizing f flag with
  | nil => exact List.forall_mem_nil _
  | cons m ms ih =>
    unfold stepBefore
    simp only [List.forall_mem_append, List.forall_mem_map]
    exact ⟨⟨fun _ _ => hr _, fun _ _ => hf _⟩, ih⟩

theorem tickAll_ops (po : Nat → PriceOps P) (fund : Nat → Option P) (ms : List Nat) (f : Nat → Market P) :
    (tickAll po fund ms f).2.2 = ms.map (fun m => (m, Op.tick (fund m))) := by
  induction ms generalizing f with
  | nil => rfl
  | cons m ms ih => rw [tickAll, ih, List.map_cons]

theorem tickAll_only (p : Op P → Prop) (hp : ∀ v, p (.tick v)) {po : Nat → PriceOps P} {fund : Nat → Option P}
    {ms : List Nat} {f : Nat → Market P} : ∀ x ∈ (tickAll po fund ms f).2.2, p x.2 := by
  rw [tickAll_ops]
  exact List.forall_mem_map.mpr fun _ _ => hp _

/-- while the execution flag satisfies `I` it goes on doing so, and every market operation performed
satisfies `p` -/
def SOut.Only (I : Bool → Prop) (p : Op P → Prop) (flag : Bool) (a : SOut P) : Prop :=
  I flag → I a.out.flag ∧ ∀ x ∈ a.ops, p x.2

theorem only_glue (I : Bool → Prop) (p : Op P → Prop) : Glue (fun (_ : State P) flag a => a.Only I p flag) where
  emit _ _ _ _ _ hI := ⟨hI, List.forall_mem_nil _⟩
  seq ha hb hI :=
    have ⟨h1, h2⟩ := ha hI
    have ⟨g1, g2⟩ := hb h1
    ⟨g1, List.forall_mem_append.mpr ⟨h2, g2⟩⟩

/-- what `Order.__init__` guarantees of a submitted order (volume > 0) -/
def ReqValid (q : SReq P) : Prop := q.isCancel = false → q.req.valid
def AnswerValid (answer : Nat → List (SReq P)) : Prop := ∀ a, ∀ q ∈ answer a, ReqValid q
def RoundTape.Valid (rt : RoundTape P) : Prop := AnswerValid rt.answer
def StepTape.Valid (st : StepTape P) : Prop := AnswerValid st.answer ∧ ∀ rt ∈ st.rounds, rt.Valid

theorem processRequest_validOps (po : Nat → PriceOps P) {q : SReq P} (hq : ReqValid q) (t : Nat) (s : State P)
    (flag : Bool) : (processRequest po t s flag q).Only (fun _ => True) Op.valid flag :=
  fun _ => ⟨trivial, resolve_only _ hq trivial fun _ => ⟨trivial, fun _ => trivial⟩⟩

theorem StepTape.none_valid : (StepTape.none : StepTape P).Valid :=
  ⟨fun _ => List.forall_mem_nil _, List.forall_mem_nil _⟩

theorem valid_glueStep (po : Nat → PriceOps P) {tp : StepTape P} (hv : tp.Valid) :
    Glue.Step po (fun _ flag a => a.Only (fun _ => True) Op.valid flag) tp where
  answer a q hq := processRequest_validOps po (hv.1 a q hq)
  rounds rt hrt a q hq := processRequest_validOps po (hv.2 rt hrt a q hq)
  before _ _ _ _ _ := ⟨trivial, stepBefore_only _ (fun _ => trivial) fun _ => trivial⟩
  after _ _ _ _ _ := ⟨trivial, tickAll_only _ fun _ => trivial⟩

theorem processBatch_validOps {po : Nat → PriceOps P} {t : Nat} {s : State P} {flag : Bool} {qs : List (SReq P)}
    (hq : ∀ q ∈ qs, ReqValid q) : ∀ x ∈ (processBatch po t s flag qs).ops, x.2.valid :=
  ((only_glue _ _).processBatch (fun q h => processRequest_validOps po (hq q h) t) s flag trivial).2

theorem run_validOps (po : Nat → PriceOps P) (ms : Markets) (price : Nat → P) (fund0 : Nat → Option P)
    (cfgs : List SessionCfg) (tapes : List (List (StepTape P))) (hv : ∀ ts ∈ tapes, ∀ tp ∈ ts, tp.Valid) :
    ∀ x ∈ (run po ms price fund0 cfgs tapes).ops, x.2.valid :=
  ((only_glue _ _).run (fun _ _ _ => ⟨trivial, List.forall_mem_nil _⟩)
    (fun _ _ _ _ _ _ => ⟨trivial, List.forall_mem_map.mpr fun _ _ => trivial⟩)
    (valid_glueStep po StepTape.none_valid) (fun ts hts tp htp => valid_glueStep po (hv ts hts tp htp)) price fund0 trivial).2

theorem tracks_inv {po : Nat → PriceOps P} {s : State P} {a : SOut P} (h : a.Tracks po s)
    (hv : ∀ x ∈ a.ops, x.2.valid) (hi : ∀ k, Inv (s.mkt k)) (k : Nat) : Inv (a.st.mkt k) := by
  have := inv_runOps (po k) (s.mkt k) (opsFor k a.ops) (hi k) (opsFor_forall hv k)
  rwa [h k] at this

def nTicks (os : List (Op P)) : Nat := (os.map opTicks).sum

theorem nTicks_cons (o : Op P) (os : List (Op P)) : nTicks (o :: os) = opTicks o + nTicks os := rfl

theorem nTicks_append (a b : List (Op P)) : nTicks (a ++ b) = nTicks a + nTicks b := by
  simp [nTicks]

theorem runOps_time (ops : PriceOps P) (m : Market P) (os : List (Op P)) :
    (m.runOps ops os).1.time = m.time + nTicks os := by
  induction os generalizing m with
  | nil => rfl
  | cons o os ih => rw [Market.runOps, ih, step_time, nTicks_cons, Nat.add_assoc]

def SOut.ticks (a : SOut P) (k : Nat) : Nat := nTicks (opsFor k a.ops)

theorem tracks_time {po : Nat → PriceOps P} {s : State P} {a : SOut P} (h : a.Tracks po s) (k : Nat) :
    (a.st.mkt k).time = (s.mkt k).time + a.ticks k := by
  rw [SOut.ticks, ← runOps_time (po k), h k]

theorem ticks_still {a : SOut P} (h : ∀ x ∈ a.ops, opTicks x.2 = 0) (k : Nat) : a.ticks k = 0 :=
  List.sum_eq_zero_iff_forall_eq_nat.mpr (List.forall_mem_map.mpr (opsFor_forall (p := (opTicks · = 0)) h k))

theorem andThen_ticks (a : SOut P) (f : State P → Bool → SOut P) (k : Nat) :
    (a.andThen f).ticks k = a.ticks k + if a.out.ok then (f a.st a.out.flag).ticks k else 0 := by
  unfold SOut.andThen
  split <;> simp [SOut.ticks, nTicks_append, *]

theorem tickOrder_count (ms : Markets) (k : Nat) : (tickOrder ms).count k = (ms.map (·.1)).count k := by
  simpa [tickOrder] using ((List.filter_append_perm (fun m : Nat × Bool => !m.2) ms).map (·.1)).count_eq k

theorem stepAfterOut_ticks (po : Nat → PriceOps P) (t : Nat) (ms : Markets) (fund : Nat → Option P) (s : State P)
    (flag : Bool) (k : Nat) : (stepAfterOut po t ms fund s flag).ticks k = (ms.map (·.1)).count k := by
  -- the operations of `tickAll` are one `tick` per entry of `tickOrder` (`tickAll_ops`): count the entries `k`
  rw [← tickOrder_count]
  simp [SOut.ticks, stepAfterOut, tickAll_ops, nTicks, opsFor, List.filter_map, Function.comp_def, opTicks,
    List.count_eq_countP, List.countP_eq_length_filter, List.map_const']
  rfl

theorem stepBody_still {po : Nat → PriceOps P} {cfg : SessionCfg} {t : Nat} {s : State P} {flag : Bool}
    {tape : StepTape P} : ∀ x ∈ (stepBody po cfg t s flag tape).ops, opTicks x.2 = 0 :=
  have hq (q : SReq P) (t : Nat) (s : State P) (flag : Bool) :
      (processRequest po t s flag q).Only (fun _ => True) (opTicks · = 0) flag :=
    fun _ => ⟨trivial, resolve_only (opTicks · = 0) (fun _ => rfl) rfl fun _ => ⟨rfl, fun _ => rfl⟩⟩
  ((only_glue _ _).stepBody (fun _ q _ => hq q) (fun _ _ _ q _ => hq q) s flag trivial).2

/-- **one clock step per market and step**: a completed step advances the clock of every market by
the number of times it is listed (once, for distinct ids); an aborted step advances none -/
theorem runStep_ticks (po : Nat → PriceOps P) (ms : Markets) (cfg : SessionCfg) (t : Nat) (s : State P)
    (flag : Bool) (tape : StepTape P) (k : Nat) :
    (runStep po ms cfg t s flag tape).ticks k =
      if (runStep po ms cfg t s flag tape).out.ok then (ms.map (·.1)).count k else 0 := by
  have h1 : (stepBeforeOut t tape.resume ms s flag).ticks k = 0 :=
    ticks_still (stepBefore_only (opTicks · = 0) (fun _ => rfl) fun _ => rfl) k
  have h2 (s' fl) : (stepBody po cfg t s' fl tape).ticks k = 0 := ticks_still stepBody_still k
  rw [runStep_eq]
  simp only [andThen_ticks, andThen_ok, stepBeforeOut_ok, stepAfterOut_ok, ↓reduceIte, Bool.true_and, Bool.and_true,
    h1, h2, stepAfterOut_ticks, Nat.zero_add]

theorem runSteps_ticks {po : Nat → PriceOps P} {ms : Markets} {cfg : SessionCfg} {t : Nat} {s : State P}
    {flag : Bool} {tapes : List (StepTape P)} {n : Nat} (k : Nat)
    (hok : (runSteps po ms cfg t s flag tapes n).out.ok = true) :
    (runSteps po ms cfg t s flag tapes n).ticks k = n * (ms.map (·.1)).count k := by
  induction n generalizing t s flag tapes with
  | zero => exact (Nat.zero_mul _).symm
  | succ n ih =>
    unfold runSteps at hok ⊢
    rw [andThen_ok, Bool.and_eq_true] at hok
    rw [andThen_ticks, if_pos hok.1, runStep_ticks, if_pos hok.1, ih hok.2, Nat.succ_mul, Nat.add_comm]

theorem runSession_ticks {po : Nat → PriceOps P} {ms : Markets} {i : Nat} {cfg : SessionCfg} {start : Nat}
    {s : State P} {tapes : List (StepTape P)} (k : Nat)
    (hok : (runSession po ms i cfg start s tapes).out.ok = true) :
    (runSession po ms i cfg start s tapes).ticks k = cfg.steps * (ms.map (·.1)).count k := by
  have h1 : (sessionHead ms i cfg start s).ticks k = 0 :=
    ticks_still (List.forall_mem_map (P := fun x : MOp P => opTicks x.2 = 0).mpr fun _ _ => rfl) k
  rw [runSession_eq] at hok ⊢
  simp only [andThen_ok, Bool.and_eq_true] at hok
  rw [andThen_ticks, if_pos hok.1, andThen_ticks, if_pos hok.2.1, h1, runSteps_ticks k hok.2.1]
  exact Nat.zero_add _

def totalSteps : List SessionCfg → Nat
  | [] => 0
  | c :: cs => c.steps + totalSteps cs

theorem runSessions_ticks {po : Nat → PriceOps P} {ms : Markets} {i start : Nat} {s : State P}
    {cfgs : List SessionCfg} {tapes : List (List (StepTape P))} (k : Nat)
    (hok : (runSessions po ms i start s cfgs tapes).out.ok = true) :
    (runSessions po ms i start s cfgs tapes).ticks k = totalSteps cfgs * (ms.map (·.1)).count k := by
  induction cfgs generalizing i start s tapes with
  | nil => exact (Nat.zero_mul _).symm
  | cons cfg cfgs ih =>
    unfold runSessions at hok ⊢
    rw [andThen_ok, Bool.and_eq_true] at hok
    rw [andThen_ticks, if_pos hok.1, runSession_ticks k hok.1, ih hok.2, totalSteps, Nat.add_mul]

/-- no before-step handler switches the execution flag on -/
def StepTape.NoResume (tp : StepTape P) : Prop := ∀ m, (tp.resume m).flag = false

theorem stepBefore_flag_off {t : Nat} {resume : Nat → StepFx P} (hr : ∀ m, (resume m).flag = false)
    {ms : Markets} {f : Nat → Market P} : (stepBefore t resume ms f false).2.2.1 = false := by
  induction ms generalizing f with
  | nil => rfl
  | cons m ms ih => simpa [stepBefore, hr m.1] using ih

/-- started with the flag off, a piece of the scheduler leaves it off and runs no round -/
abbrev SOut.Quiet (flag : Bool) (a : SOut P) : Prop := a.Only (· = false) (· ≠ .exec) flag

theorem processRequest_quiet (po : Nat → PriceOps P) (q : SReq P) (t : Nat) (s : State P) (flag : Bool) :
    (processRequest po t s flag q).Quiet flag := by
  rintro rfl
  exact ⟨(Runner.processRequest_flag_off t _).2, resolve_only (· ≠ .exec) (fun _ => nofun) nofun nofun⟩

theorem StepTape.none_noResume : (StepTape.none : StepTape P).NoResume := fun _ => rfl

theorem quiet_glueStep (po : Nat → PriceOps P) {tp : StepTape P} (hr : tp.NoResume) :
    Glue.Step po (fun _ flag a => a.Quiet flag) tp where
  answer _ q _ := processRequest_quiet po q
  rounds _ _ _ q _ := processRequest_quiet po q
  before _ _ _ _ := by
    rintro rfl
    exact ⟨stepBefore_flag_off hr, stepBefore_only (· ≠ .exec) nofun nofun⟩
  after _ _ _ _ h := ⟨h, tickAll_only (· ≠ .exec) nofun⟩

/-- **a session configured without order execution, in which no handler switches execution on, runs
no matching round** and the flag is still off at the end — whatever the agents submit -/
theorem runSession_quiet (po : Nat → PriceOps P) (ms : Markets) (k : Nat) (cfg : SessionCfg) (start : Nat)
    (s : State P) (tapes : List (StepTape P)) (hx : cfg.execution = false)
    (hr : ∀ tp ∈ tapes, tp.NoResume) :
    (runSession po ms k cfg start s tapes).out.flag = false ∧
      ∀ x ∈ (runSession po ms k cfg start s tapes).ops, x.2 ≠ Op.exec :=
  (only_glue _ _).runSession (fun _ _ _ => ⟨hx, List.forall_mem_map.mpr fun _ _ => nofun⟩)
    (quiet_glueStep po StepTape.none_noResume) (fun tp htp => quiet_glueStep po (hr tp htp)) s false rfl

def isFill : Rec P → Bool
  | .fill _ => true
  | _ => false

/-- the fill references of the ledger events of a trace, in order -/
def ledgerRefs : List Ev → List Nat
  | [] => []
  | .ledger refs :: es => refs ++ ledgerRefs es
  | _ :: es => ledgerRefs es

/-- the fill references of the execution notifications of a trace, in order -/
def cbRefs : List Ev → List Nat
  | [] => []
  | .cbExecuted _ r :: es => r :: cbRefs es
  | _ :: es => cbRefs es

/-- every reference twice: a fill is notified to both its parties -/
def dup (l : List Nat) : List Nat := l.flatMap (fun r => [r, r])

/-! the request or fill an event refers to, by kind of event: `tr.flatMap addRef` … are the references of one
kind in a trace, in order (for ledger events and notifications this is `ledgerRefs`, `cbRefs`, in which the
numbering theorems are stated: `ledgerRefs_eq`, `cbRefs_eq`) -/
def addRef : Ev → List Nat | .addOrder _ r => [r] | _ => []
def hookOrderBeforeRef : Ev → List Nat | .hookOrderBefore r _ => [r] | _ => []
def cancelRef : Ev → List Nat | .cancel _ r => [r] | _ => []
def hookCancelBeforeRef : Ev → List Nat | .hookCancelBefore r _ => [r] | _ => []
def cbSubmittedRef : Ev → List Nat | .cbSubmitted _ r => [r] | _ => []
def hookOrderAfterRef : Ev → List Nat | .hookOrderAfter r _ => [r] | _ => []
def cbCanceledRef : Ev → List Nat | .cbCanceled _ r => [r] | _ => []
def hookCancelAfterRef : Ev → List Nat | .hookCancelAfter r _ => [r] | _ => []
def hookExecRef : Ev → List Nat | .hookExecAfter r _ => [r] | _ => []
def ledgerRef : Ev → List Nat | .ledger rs => rs | _ => []
def cbExecRef : Ev → List Nat | .cbExecuted _ r => [r] | _ => []

theorem ledgerRefs_eq (tr : List Ev) : ledgerRefs tr = tr.flatMap ledgerRef := by
  induction tr with
  | nil => rfl
  | cons e es ih => cases e <;> simp [List.flatMap_cons, ledgerRef, ledgerRefs, ih]

theorem cbRefs_eq (tr : List Ev) : cbRefs tr = tr.flatMap cbExecRef := by
  induction tr with
  | nil => rfl
  | cons e es ih => cases e <;> simp [List.flatMap_cons, cbExecRef, cbRefs, ih]

theorem ledgerRefs_append (a b : List Ev) : ledgerRefs (a ++ b) = ledgerRefs a ++ ledgerRefs b := by
  simp only [ledgerRefs_eq, List.flatMap_append]

theorem cbRefs_append (a b : List Ev) : cbRefs (a ++ b) = cbRefs a ++ cbRefs b := by
  simp only [cbRefs_eq, List.flatMap_append]

theorem glue_no_refs {e : Ev} (h : Ev.isGlue e = true) :
    ledgerRef e = [] ∧ cbExecRef e = [] ∧ cbSubmittedRef e = [] ∧ cbCanceledRef e = [] := by
  cases e <;> first | exact ⟨rfl, rfl, rfl, rfl⟩ | cases h

theorem flatMap_glue {f : Ev → List Nat} (hf : ∀ e, Ev.isGlue e = true → f e = []) {l : List Ev}
    (h : GlueTr l) : l.flatMap f = [] :=
  List.flatMap_eq_nil_iff.mpr fun e he => hf e (h e he)

theorem dup_append (a b : List Nat) : dup (a ++ b) = dup a ++ dup b := by simp [dup]

def Plain (tr : List Ev) : Prop := ledgerRefs tr = [] ∧ cbRefs tr = []

theorem plain_of_glue {tr : List Ev} (h : GlueTr tr) : Plain tr :=
  ⟨(ledgerRefs_eq tr).trans (flatMap_glue (fun _ he => (glue_no_refs he).1) h),
   (cbRefs_eq tr).trans (flatMap_glue (fun _ he => (glue_no_refs he).2.1) h)⟩

theorem Plain.append {a b : List Ev} (ha : Plain a) (hb : Plain b) : Plain (a ++ b) :=
  ⟨by rw [ledgerRefs_append, ha.1, hb.1]; rfl, by rw [cbRefs_append, ha.2, hb.2]; rfl⟩

theorem fillEvents_refs (t : Nat) (fs : List RFill) :
    ledgerRefs (fillEvents t fs) = [] ∧ cbRefs (fillEvents t fs) = dup (fs.map (·.ref)) := by
  induction fs with
  | nil => exact ⟨rfl, rfl⟩
  | cons f fs ih => simp [fillEvents, ledgerRefs, cbRefs, dup, ih.1, ih.2]

theorem processRequest_refs (t : Nat) (flag : Bool) (r : Request) :
    ledgerRefs (Runner.processRequest t flag r).tr =
      (if r.accepted && flag then (match r.fills with | some fs => fs.map (·.ref) | none => []) else []) ∧
    cbRefs (Runner.processRequest t flag r).tr =
      dup (if r.accepted && flag then (match r.fills with | some fs => fs.map (·.ref) | none => []) else []) := by
  unfold Runner.processRequest
  cases hc : r.isCancel <;> cases ha : r.accepted <;> cases hf : flag <;>
    (try rcases hfs : r.fills with _ | fs) <;>
    simp [ledgerRefs, cbRefs, dup, (fillEvents_refs t _).1, (fillEvents_refs t _).2]

theorem rfills_refs (q : SReq P) (base i : Nat) (fs : List (Fill P)) :
    (rfills q base i fs).map (·.ref) = List.range' (base + i) fs.length := by
  induction fs generalizing i with
  | nil => rfl
  | cons f fs ih =>
    simp only [rfills, List.map_cons, List.length_cons, List.range'_succ, ih (i + 1)]
    congr 2

def countFills (l : List (MRec P)) : Nat := (l.filter (fun x => isFill x.2)).length

theorem countFills_append (a b : List (MRec P)) : countFills (a ++ b) = countFills a + countFills b := by
  simp [countFills]

theorem countFills_zero {l : List (MRec P)} (h : ∀ x ∈ l, isFill x.2 = false) : countFills l = 0 := by
  unfold countFills
  rw [List.length_eq_zero_iff, List.filter_eq_nil_iff]
  intro x hx
  simp [h x hx]

theorem countFills_fills (m : Nat) (fs : List (Fill P)) :
    countFills (fs.map (fun f => ((m, Rec.fill f) : MRec P))) = fs.length := by
  simp [countFills, List.filter_map, Function.comp_def, isFill]

/-- the fills of a piece of the scheduler are numbered from the fill counter on, consecutively: the
counter advances by the number of fill records written, each of these fills is applied to the
ledger once and notified twice -/
def SOut.Numbered (s : State P) (a : SOut P) : Prop :=
  a.st.nfill = s.nfill + countFills a.recs ∧ ledgerRefs a.out.tr = List.range' s.nfill (countFills a.recs) ∧
    cbRefs a.out.tr = dup (List.range' s.nfill (countFills a.recs))

theorem numbered_of_frame {s : State P} {a : SOut P} (h : a.Frame s) : a.Numbered s := by
  have hr : countFills a.recs = 0 := countFills_zero fun x hx => by
    obtain ⟨l, e⟩ := h.recs x hx
    rw [e]
    rfl
  rw [SOut.Numbered, hr]
  exact ⟨h.nfill, plain_of_glue h.tr⟩

theorem numbered_glue : Glue (fun (s : State P) _ a => a.Numbered s) where
  emit _ _ _ _ hl := numbered_of_frame (emit_frame hl)
  seq := by
    rintro s _ a b ⟨h1, h2, h3⟩ ⟨g1, g2, g3⟩
    refine ⟨by simp only [g1, h1, countFills_append]; omega, ?_, ?_⟩
    · simp only [ledgerRefs_append, h2, g2, h1, countFills_append]
      exact List.range'_append_1
    · simp only [cbRefs_append, h3, g3, h1, countFills_append, ← dup_append]
      rw [List.range'_append_1]

theorem processRequest_numbered (po : Nat → PriceOps P) (q : SReq P) (t : Nat) (s : State P) (flag : Bool) :
    (processRequest po t s flag q).Numbered s := by
  unfold SOut.Numbered processRequest
  have hr := processRequest_refs t flag (resolve po s flag q).2.1
  simp only [hr.1, hr.2]
  rcases resolve_cases po s flag q with h | ⟨s1, r1, o1, hm, h⟩
  · rw [h]; exact ⟨rfl, rfl, rfl⟩
  · obtain ⟨m', o, r, -, rfl, rfl, -, hk⟩ := marketCall_cases hm
    have h1 : countFills [(q.market, r)] = 0 := by rcases hk with ⟨_, _, l, rfl⟩ | ⟨_, _, l, rfl⟩ <;> rfl
    rcases h with h | ⟨rfl, s2, rf, r2, o2, hr, h⟩ <;> rw [h]
    · simp [baseRequest, h1, dup]
    · obtain ⟨m2, fs, -, rfl, rfl, rfl, -⟩ := roundCall_some hr
      have hc : countFills ((q.market, r) :: fs.map (fun f => (q.market, Rec.fill f))) = fs.length :=
        (countFills_append [_] _).trans (by rw [h1, countFills_fills, Nat.zero_add])
      simp [baseRequest, rfills_refs, hc]

/-- **over a whole run** the fill counter counts the fill records written; the ledger events list
the fills `0, 1, …, N−1` — every fill of the run exactly once, in order — and the execution
notifications carry every one of them exactly twice (buyer, seller), where `N` is the number of
fills of the run -/
theorem run_numbered (po : Nat → PriceOps P) (ms : Markets) (price : Nat → P) (fund0 : Nat → Option P)
    (cfgs : List SessionCfg) (tapes : List (List (StepTape P))) :
    (run po ms price fund0 cfgs tapes).st.nfill = countFills (run po ms price fund0 cfgs tapes).recs ∧
    ledgerRefs (run po ms price fund0 cfgs tapes).out.tr =
      List.range (countFills (run po ms price fund0 cfgs tapes).recs) ∧
    cbRefs (run po ms price fund0 cfgs tapes).out.tr =
      dup (List.range (countFills (run po ms price fund0 cfgs tapes).recs)) := by
  simpa [SOut.Numbered, initState, List.range_eq_range'] using
    numbered_glue.run_of_frame numbered_of_frame (processRequest_numbered po) (ms := ms) (cfgs := cfgs)
      (tapes := tapes) price fund0

end Pams.Sim
