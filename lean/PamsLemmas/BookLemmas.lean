import PamsLemmas.OrderLemmas
import PamsModel.Book

namespace Pams
variable {P : Type} [LinearOrder P]

def Sorted (l : List (Order P)) : Prop := l.Pairwise (fun a b => a.lt b = true)

structure SideInv (side : Bool) (time nextId : Nat) (l : List (Order P)) : Prop where
  sorted : Sorted l
  side : ∀ o ∈ l, o.isBuy = side
  pos : ∀ o ∈ l, 0 < o.vol
  idlt : ∀ o ∈ l, o.id < nextId
  nodup : (l.map (·.id)).Nodup
  placed : ∀ o ∈ l, o.placedAt ≤ time
  alive : ∀ o ∈ l, o.expired time = false

theorem insert_perm (o : Order P) (l : List (Order P)) : (Book.insert o l).Perm (o :: l) := by
  induction l with
  | nil => simp [Book.insert]
  | cons y ys ih =>
    unfold Book.insert
    split
    · exact List.Perm.refl _
    · exact (List.Perm.cons y ih).trans (List.Perm.swap o y ys)

theorem mem_insert (o x : Order P) (l : List (Order P)) :
    x ∈ Book.insert o l ↔ x = o ∨ x ∈ l := by
  rw [(insert_perm o l).mem_iff, List.mem_cons]

theorem forall_mem_insert {p : Order P → Prop} {o : Order P} {l : List (Order P)} :
    (∀ x ∈ Book.insert o l, p x) ↔ p o ∧ ∀ x ∈ l, p x := by
  simp [mem_insert]

theorem sorted_insert {side : Bool} {o : Order P} {l : List (Order P)} (hs : Sorted l)
    (hside : ∀ x ∈ l, x.isBuy = side) (ho : o.isBuy = side) (hid : ∀ x ∈ l, x.id ≠ o.id) :
    Sorted (Book.insert o l) := by
  induction l with
  | nil => simp [Book.insert, Sorted]
  | cons y ys ih =>
    have hs' := List.pairwise_cons.mp hs
    have hsd := List.forall_mem_cons.mp hside
    have hid' := List.forall_mem_cons.mp hid
    have hoy : o.isBuy = y.isBuy := ho.trans hsd.1.symm
    unfold Book.insert
    split
    · rename_i hlt
      exact List.pairwise_cons.mpr
        ⟨List.forall_mem_cons.mpr ⟨hlt, fun z hz => olt_trans o y z hoy hlt (hs'.1 z hz)⟩, hs⟩
    · rename_i hnlt
      have hyo : y.lt o = true := (olt_total y o hoy.symm hid'.1).resolve_right hnlt
      exact List.pairwise_cons.mpr ⟨forall_mem_insert.mpr ⟨hyo, hs'.1⟩, ih hs'.2 hsd.2 hid'.2⟩

theorem SideInv.nil {side : Bool} {time nextId : Nat} : SideInv side time nextId ([] : List (Order P)) :=
  ⟨List.Pairwise.nil, by simp, by simp, by simp, by simp, by simp, by simp⟩

/-- the invariant passes to every sublist: to what `_remove`, a pop or an expiry sweep leaves -/
theorem SideInv.sublist {side : Bool} {time nextId : Nat} {l l' : List (Order P)}
    (h : SideInv side time nextId l) (hs : l'.Sublist l) : SideInv side time nextId l' where
  sorted := h.sorted.sublist hs
  side := fun o ho => h.side o (hs.subset ho)
  pos := fun o ho => h.pos o (hs.subset ho)
  idlt := fun o ho => h.idlt o (hs.subset ho)
  nodup := h.nodup.sublist (hs.map _)
  placed := fun o ho => h.placed o (hs.subset ho)
  alive := fun o ho => h.alive o (hs.subset ho)

theorem SideInv.filter {side : Bool} {time nextId : Nat} {l : List (Order P)}
    (h : SideInv side time nextId l) (p : Order P → Bool) :
    SideInv side time nextId (l.filter p) := h.sublist List.filter_sublist

theorem SideInv.tail {side : Bool} {t n : Nat} {b : Order P} {bs : List (Order P)}
    (h : SideInv side t n (b :: bs)) : SideInv side t n bs := h.sublist (List.sublist_cons_self b bs)

theorem SideInv.insert {side : Bool} {time nextId : Nat} {l : List (Order P)}
    (h : SideInv side time nextId l) (o : Order P) (hside : o.isBuy = side) (hpos : 0 < o.vol)
    (hid : o.id = nextId) (hpl : o.placedAt = time) :
    SideInv side time (nextId + 1) (Book.insert o l) where
  sorted := sorted_insert h.sorted h.side hside
    (fun x hx => by have := h.idlt x hx; omega)
  side := forall_mem_insert.mpr ⟨hside, h.side⟩
  pos := forall_mem_insert.mpr ⟨hpos, h.pos⟩
  idlt := forall_mem_insert.mpr ⟨by omega, fun x hx => Nat.lt_succ_of_lt (h.idlt x hx)⟩
  nodup := by
    refine ((insert_perm o l).map _).nodup_iff.mpr (List.nodup_cons.mpr ⟨?_, h.nodup⟩)
    intro hmem
    obtain ⟨y, hy, hyid⟩ := List.mem_map.mp hmem
    have := h.idlt y hy
    have : y.id = o.id := hyid
    omega
  placed := forall_mem_insert.mpr ⟨by omega, h.placed⟩
  alive := forall_mem_insert.mpr ⟨(not_expired_iff o time).mpr fun t _ => by omega, h.alive⟩

theorem SideInv.mono_id {side : Bool} {time n n' : Nat} {l : List (Order P)}
    (h : SideInv side time n l) (hn : n ≤ n') : SideInv side time n' l :=
  { h with idlt := fun o ho => Nat.lt_of_lt_of_le (h.idlt o ho) hn }

theorem SideInv.jump {side : Bool} {time nextId : Nat} {l : List (Order P)}
    (h : SideInv side time nextId l) (k : Nat) :
    SideInv side (time + k) nextId (Book.keepAt (time + k) l) :=
  have hf := h.filter fun x => !x.expired (time + k)
  { hf with
    placed := fun o ho => Nat.le_trans (hf.placed o ho) (Nat.le_add_right _ _)
    alive := fun o ho => by simpa using (List.mem_filter.mp ho).2 }

/-- Two sorted lists with the same elements are equal: the queue content determines the pop
order (arrival-order independence). -/
theorem sorted_perm_unique {side : Bool} {l₁ l₂ : List (Order P)} (hp : l₁.Perm l₂)
    (h₁ : Sorted l₁) (h₂ : Sorted l₂) (hs : ∀ x ∈ l₁, x.isBuy = side) : l₁ = l₂ := by
  unfold Sorted at h₁ h₂
  refine List.Perm.eq_of_pairwise ?_ h₁ h₂ hp
  intro a b ha hb hab hba
  have := olt_asymm a b (by rw [hs a ha, hs b (hp.mem_iff.mpr hb)]) hab
  rw [this] at hba
  exact absurd hba (by simp)

omit [LinearOrder P] in
theorem mem_remove {y : Order P} {id : Nat} {l : List (Order P)} :
    y ∈ Book.remove id l ↔ y ∈ l ∧ y.id ≠ id := by
  simp [Book.remove]

omit [LinearOrder P] in
theorem mem_keepAt {o : Order P} {t : Nat} {l : List (Order P)} :
    o ∈ Book.keepAt t l ↔ o ∈ l ∧ ¬ ∃ t', o.ttl = some t' ∧ o.placedAt + t' < t := by
  rw [← expired_iff, Book.keepAt, List.mem_filter]
  simp

/-- the head order opens a price level or joins the first one -/
theorem depth_cons (x : Order P) (xs : List (Order P)) :
    ∃ w t, Book.depth (x :: xs) = (x.price, w + x.vol) :: t ∧
      (Book.depth xs = (x.price, w) :: t ∨ (w = 0 ∧ Book.depth xs = t)) := by
  rcases hd : Book.depth xs with _ | ⟨⟨p, v⟩, t⟩
  · exact ⟨0, [], by simp [Book.depth, hd], Or.inr ⟨rfl, rfl⟩⟩
  · by_cases h : p = x.price
    · exact ⟨v, t, by simp [Book.depth, hd, h], Or.inl (by rw [h])⟩
    · exact ⟨0, (p, v) :: t, by simp [Book.depth, hd, h], Or.inr ⟨rfl, rfl⟩⟩

theorem depth_price_mem (l : List (Order P)) : ∀ pv ∈ Book.depth l, ∃ o ∈ l, o.price = pv.1 := by
  induction l with
  | nil => simp [Book.depth]
  | cons x xs ih =>
    have ih' : ∀ pv ∈ Book.depth xs, ∃ o ∈ x :: xs, o.price = pv.1 := fun pv hpv =>
      (ih pv hpv).imp fun o ho => ⟨List.mem_cons_of_mem _ ho.1, ho.2⟩
    obtain ⟨w, t, e, h | ⟨-, h⟩⟩ := depth_cons x xs <;> rw [e] <;> rw [h] at ih'
    · exact List.forall_mem_cons.mpr ⟨⟨x, List.mem_cons_self, rfl⟩, (List.forall_mem_cons.mp ih').2⟩
    · exact List.forall_mem_cons.mpr ⟨⟨x, List.mem_cons_self, rfl⟩, ih'⟩

end Pams
