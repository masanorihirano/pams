/-
The matching walk.  One step of `walk` pairs the two heads and goes on with what is `rest` of each
side; every fact below is proved by the induction `walk_induct` that follows this single step.
-/
import PamsLemmas.BookLemmas
import PamsModel.Match

set_option linter.unusedSectionVars false

namespace Pams
variable {P : Type} [LinearOrder P]

/-- what is left of a side whose head `x` has just been paired with an order of volume `v` -/
def rest (x : Order P) (v : Nat) (xs : List (Order P)) : List (Order P) :=
  if v < x.vol then { x with vol := x.vol - v } :: xs else xs

theorem walk_stop {bs ss : List (Order P)}
    (h : ∀ b ∈ bs.head?, ∀ s ∈ ss.head?, noCross b s = true) : walk bs ss = ([], bs, ss) := by
  cases bs with
  | nil => rw [walk]
  | cons b bs =>
    cases ss with
    | nil => rw [walk]; simp
    | cons s ss => rw [walk, if_pos (h b rfl s rfl)]

theorem walk_step {b s : Order P} (bs ss : List (Order P)) (hnc : noCross b s = false) :
    walk (b :: bs) (s :: ss) =
      (⟨min b.vol s.vol, b, s⟩ :: (walk (rest b s.vol bs) (rest s b.vol ss)).1,
        (walk (rest b s.vol bs) (rest s b.vol ss)).2) := by
  rw [walk, if_neg (by simp [hnc])]
  unfold rest
  rcases Nat.lt_trichotomy b.vol s.vol with h | h | h
  · simp [h, Nat.lt_asymm h, Nat.min_eq_left (Nat.le_of_lt h)]
  · simp [h]
  · simp [h, Nat.lt_asymm h, Nat.min_eq_right (Nat.le_of_lt h)]

theorem walk_induct {motive : List (Order P) → List (Order P) → Prop}
    (stop : ∀ bs ss, (∀ b ∈ bs.head?, ∀ s ∈ ss.head?, noCross b s = true) → motive bs ss)
    (step : ∀ b bs s ss, noCross b s = false →
      motive (rest b s.vol bs) (rest s b.vol ss) → motive (b :: bs) (s :: ss))
    (bs ss : List (Order P)) : motive bs ss := by
  fun_induction walk bs ss with
  | case1 b bs s ss hnc => exact stop _ _ (by simpa using hnc)
  | case2 b bs s ss hnc hlt r ih =>
    exact step b bs s ss (by simpa using hnc) (by simpa [rest, hlt, Nat.lt_asymm hlt] using ih)
  | case3 b bs s ss hnc hnlt hlt r ih =>
    exact step b bs s ss (by simpa using hnc) (by simpa [rest, hlt, hnlt] using ih)
  | case4 b bs s ss hnc hnlt hnlt2 r ih =>
    exact step b bs s ss (by simpa using hnc) (by simpa [rest, hnlt, hnlt2] using ih)
  | case5 ss => exact stop _ _ (by simp)
  | case6 bs hne => exact stop _ _ (by simp)

/-- same order up to its (remaining) volume -/
structure sameOrder (a b : Order P) : Prop where
  id : a.id = b.id
  agent : a.agent = b.agent
  isBuy : a.isBuy = b.isBuy
  price : a.price = b.price
  placedAt : a.placedAt = b.placedAt
  ttl : a.ttl = b.ttl

theorem sameOrder_refl (a : Order P) : sameOrder a a := ⟨rfl, rfl, rfl, rfl, rfl, rfl⟩

theorem sameOrder_lt_left {a a' : Order P} (h : sameOrder a a') (c : Order P) :
    a.lt c = a'.lt c := by
  unfold Order.lt gtLt cmpPlaced
  rw [h.isBuy, h.price, h.placedAt, h.id]

theorem sameOrder_lt_right {a a' : Order P} (h : sameOrder a a') (c : Order P) :
    c.lt a = c.lt a' := by
  unfold Order.lt gtLt cmpPlaced
  rw [h.id, h.price, h.placedAt]

/-- every order of `l'` is an order of `l` up to its volume (matched pairs and residual sides carry what is
left of an order, so they are not members of the sides the walk started from) -/
def Within (l' l : List (Order P)) : Prop := ∀ y ∈ l', ∃ y0 ∈ l, sameOrder y y0

theorem Within.of_subset {l' l : List (Order P)} (h : l' ⊆ l) : Within l' l :=
  fun y hy => ⟨y, h hy, sameOrder_refl y⟩

theorem Within.refl (l : List (Order P)) : Within l l := .of_subset (List.Subset.refl l)

theorem Within.of_rest {l' xs : List (Order P)} {x : Order P} {v : Nat}
    (h : Within l' (rest x v xs)) : Within l' (x :: xs) := by
  intro y hy
  obtain ⟨y0, hy0, hso⟩ := h y hy
  unfold rest at hy0
  split at hy0
  · rcases List.mem_cons.mp hy0 with rfl | hy0
    · exact ⟨x, List.mem_cons_self, hso.id, hso.agent, hso.isBuy, hso.price, hso.placedAt, hso.ttl⟩
    · exact ⟨y0, List.mem_cons_of_mem _ hy0, hso⟩
  · exact ⟨y0, List.mem_cons_of_mem _ hy0, hso⟩

theorem Within.cons {l xs : List (Order P)} (x : Order P) (h : Within l (x :: xs)) :
    Within (x :: l) (x :: xs) :=
  List.forall_mem_cons.mpr ⟨⟨x, List.mem_cons_self, sameOrder_refl x⟩, h⟩

theorem forall_rest {p : Order P → Prop} (hp : ∀ {a b}, sameOrder a b → p b → p a) {x : Order P}
    {xs : List (Order P)} (h : ∀ o ∈ x :: xs, p o) (v : Nat) : ∀ o ∈ rest x v xs, p o := by
  intro o ho
  obtain ⟨o0, ho0, hso⟩ := (Within.refl _).of_rest o ho
  exact hp hso (h o0 ho0)

theorem side_rest {side : Bool} {x : Order P} {xs : List (Order P)}
    (h : ∀ o ∈ x :: xs, o.isBuy = side) (v : Nat) : ∀ o ∈ rest x v xs, o.isBuy = side :=
  forall_rest (fun hso hb => hso.isBuy.trans hb) h v

theorem sorted_rest {x : Order P} {xs : List (Order P)} (h : Sorted (x :: xs)) (v : Nat) :
    Sorted (rest x v xs) := by
  unfold rest
  split
  · exact List.pairwise_cons.mpr (List.pairwise_cons.mp h)
  · exact (List.pairwise_cons.mp h).2

theorem pos_rest {x : Order P} {xs : List (Order P)} (h : ∀ o ∈ x :: xs, 0 < o.vol) (v : Nat) :
    ∀ o ∈ rest x v xs, 0 < o.vol := by
  unfold rest
  split
  · exact List.forall_mem_cons.mpr ⟨Nat.sub_pos_of_lt ‹_›, (List.forall_mem_cons.mp h).2⟩
  · exact (List.forall_mem_cons.mp h).2

theorem SideInv.rest {side : Bool} {t n : Nat} {x : Order P} {xs : List (Order P)}
    (h : SideInv side t n (x :: xs)) (v : Nat) : SideInv side t n (rest x v xs) where
  sorted := sorted_rest h.sorted v
  side := side_rest h.side v
  pos := pos_rest h.pos v
  idlt := forall_rest (fun hso hlt => hso.id ▸ hlt) h.idlt v
  nodup := by
    unfold Pams.rest
    split
    · exact h.nodup
    · exact h.tail.nodup
  placed := forall_rest (fun hso hle => hso.placedAt ▸ hle) h.placed v
  alive := forall_rest (fun hso ha => by rw [Order.expired, hso.placedAt, hso.ttl]; exact ha)
    h.alive v

theorem walk_resid_inv {t n : Nat} {bs ss : List (Order P)}
    (hb : SideInv true t n bs) (hs : SideInv false t n ss) :
    SideInv true t n (walk bs ss).2.1 ∧ SideInv false t n (walk bs ss).2.2 := by
  induction bs, ss using walk_induct with
  | stop bs ss h => rw [walk_stop h]; exact ⟨hb, hs⟩
  | step b bs s ss hnc ih => rw [walk_step bs ss hnc]; exact ih (hb.rest _) (hs.rest _)

theorem noCross_iff {b s : Order P} :
    noCross b s = true ↔ ∃ pb ps, b.price = some pb ∧ s.price = some ps ∧ pb < ps := by
  unfold noCross
  rcases b.price with _ | pb <;> rcases s.price with _ | ps <;> simp

theorem remainExecutable_of_limit {b s : Order P} (bs ss : List (Order P))
    (h : b.price ≠ none ∨ s.price ≠ none) :
    remainExecutable (b :: bs) (s :: ss) = !noCross b s := by
  rcases hb : b.price with _ | pb <;> rcases hs : s.price with _ | ps
  · simp [hb, hs] at h
  all_goals simp only [remainExecutable, noCross, hb, hs, Bool.not_false, ← not_lt, decide_not]

/-- C03 core: whatever the input, the residual book of a walk is not executable. -/
theorem walk_resid_not_executable (bs ss : List (Order P)) :
    remainExecutable (walk bs ss).2.1 (walk bs ss).2.2 = false := by
  induction bs, ss using walk_induct with
  | stop bs ss h =>
    rw [walk_stop h]
    rcases bs with _ | ⟨b, bs⟩ <;> rcases ss with _ | ⟨s, ss⟩ <;>
      try (simp [remainExecutable]; done)
    obtain ⟨pb, ps, hb, -, -⟩ := noCross_iff.mp (h b rfl s rfl)
    rw [remainExecutable_of_limit bs ss (Or.inl (by simp [hb])), h b rfl s rfl]
    rfl
  | step b bs s ss hnc ih => rw [walk_step bs ss hnc]; exact ih

theorem walk_within (bs ss : List (Order P)) :
    Within ((walk bs ss).1.map (·.b) ++ (walk bs ss).2.1) bs ∧
    Within ((walk bs ss).1.map (·.s) ++ (walk bs ss).2.2) ss := by
  induction bs, ss using walk_induct with
  | stop bs ss h => rw [walk_stop h]; exact ⟨Within.refl bs, Within.refl ss⟩
  | step b bs s ss hnc ih =>
    rw [walk_step bs ss hnc]
    exact ⟨ih.1.of_rest.cons b, ih.2.of_rest.cons s⟩

/-- C01: every pair names a buy order of the buy side and a sell order of the sell side (up to
remaining volume) -/
theorem walk_pairs_mem (bs ss : List (Order P)) :
    ∀ pr ∈ (walk bs ss).1, (∃ b ∈ bs, sameOrder pr.b b) ∧ (∃ s ∈ ss, sameOrder pr.s s) :=
  fun pr hpr =>
    ⟨(walk_within bs ss).1 pr.b (List.mem_append_left _ (List.mem_map_of_mem hpr)),
     (walk_within bs ss).2 pr.s (List.mem_append_left _ (List.mem_map_of_mem hpr))⟩

theorem walk_resid_mem (bs ss : List (Order P)) :
    Within (walk bs ss).2.1 bs ∧ Within (walk bs ss).2.2 ss :=
  ⟨fun y hy => (walk_within bs ss).1 y (List.mem_append_right _ hy),
   fun y hy => (walk_within bs ss).2 y (List.mem_append_right _ hy)⟩

theorem walk_pairs_pos {bs ss : List (Order P)} (hb : ∀ o ∈ bs, 0 < o.vol)
    (hs : ∀ o ∈ ss, 0 < o.vol) : ∀ pr ∈ (walk bs ss).1, 0 < pr.vol := by
  induction bs, ss using walk_induct with
  | stop bs ss h => rw [walk_stop h]; simp
  | step b bs s ss hnc ih =>
    rw [walk_step bs ss hnc]
    refine List.forall_mem_cons.mpr ⟨?_, ih (pos_rest hb _) (pos_rest hs _)⟩
    exact Nat.lt_min.mpr ⟨hb b List.mem_cons_self, hs s List.mem_cons_self⟩

theorem not_lt_head {side : Bool} {b : Order P} {bs l : List (Order P)} (h : Sorted (b :: bs))
    (hside : ∀ o ∈ b :: bs, o.isBuy = side) (hl : Within l (b :: bs)) :
    ∀ y ∈ l, y.lt b = false := by
  intro y hy
  obtain ⟨y0, hy0, hso⟩ := hl y hy
  rw [sameOrder_lt_left hso]
  rcases List.mem_cons.mp hy0 with rfl | hy0
  · exact olt_irrefl _
  · exact olt_asymm b y0
      ((hside b List.mem_cons_self).trans (hside y0 (List.mem_cons_of_mem _ hy0)).symm)
      ((List.pairwise_cons.mp h).1 y0 hy0)

/-- C02 core (buy side): nobody left in the residual book outranks an order that was matched. -/
theorem walk_priority_buy (bs ss : List (Order P)) (hbs : Sorted bs)
    (hside : ∀ o ∈ bs, o.isBuy = true) :
    ∀ pr ∈ (walk bs ss).1, ∀ y ∈ (walk bs ss).2.1, y.lt pr.b = false := by
  induction bs, ss using walk_induct with
  | stop bs ss h => rw [walk_stop h]; simp
  | step b bs s ss hnc ih =>
    rw [walk_step bs ss hnc]
    exact List.forall_mem_cons.mpr ⟨not_lt_head hbs hside (walk_resid_mem _ _).1.of_rest,
      ih (sorted_rest hbs _) (side_rest hside _)⟩

/-- C02 core (sell side). -/
theorem walk_priority_sell (bs ss : List (Order P)) (hss : Sorted ss)
    (hside : ∀ o ∈ ss, o.isBuy = false) :
    ∀ pr ∈ (walk bs ss).1, ∀ y ∈ (walk bs ss).2.2, y.lt pr.s = false := by
  induction bs, ss using walk_induct with
  | stop bs ss h => rw [walk_stop h]; simp
  | step b bs s ss hnc ih =>
    rw [walk_step bs ss hnc]
    exact List.forall_mem_cons.mpr ⟨not_lt_head hss hside (walk_resid_mem _ _).2.of_rest,
      ih (sorted_rest hss _) (side_rest hside _)⟩

/-- `p` respects the buyer's limit (market orders impose no bound) -/
def bidOK (p : P) (b : Order P) : Prop := ∀ pb, b.price = some pb → p ≤ pb
/-- `p` respects the seller's limit -/
def askOK (p : P) (s : Order P) : Prop := ∀ ps, s.price = some ps → ps ≤ p

theorem limit_of_not_lt {a b : Order P} (h : b.lt a = false) {pa : P} (ha : a.price = some pa) :
    ∃ pb, b.price = some pb ∧ if b.isBuy then pb ≤ pa else pa ≤ pb := by
  have hn : ¬ ranksBefore b a := fun hr => by simp [(lt_iff_ranksBefore b a).mpr hr] at h
  unfold ranksBefore at hn
  rcases hb : b.price with _ | pb
  · simp [hb, ha] at hn
  · refine ⟨pb, rfl, ?_⟩
    simp only [hb, ha, not_or] at hn
    cases hbuy : b.isBuy <;> simpa [hbuy] using hn.1

theorem bidOK_of_not_lt {p : P} {a b : Order P} (hb : b.isBuy = true) (h : b.lt a = false)
    (hok : bidOK p b) : bidOK p a := by
  intro pa hpa
  obtain ⟨pb, hpb, hle⟩ := limit_of_not_lt h hpa
  rw [hb] at hle
  exact le_trans (hok pb hpb) hle

theorem askOK_of_not_lt {p : P} {a b : Order P} (hb : b.isBuy = false) (h : b.lt a = false)
    (hok : askOK p b) : askOK p a := by
  intro pa hpa
  obtain ⟨pb, hpb, hle⟩ := limit_of_not_lt h hpa
  rw [hb] at hle
  exact le_trans hle (hok pb hpb)

theorem pairPrice_none {b s : Order P} (h : pairPrice b s = none) :
    b.price = none ∧ s.price = none := by
  unfold pairPrice at h
  rcases hb : b.price with _ | pb <;> rcases hs : s.price with _ | ps <;> simp [hb, hs] at h ⊢
  split at h <;> (try split at h) <;> simp at h

theorem pairPrice_ok {b s : Order P} {p : P} (h : pairPrice b s = some p)
    (hnc : noCross b s = false) : bidOK p b ∧ askOK p s := by
  unfold pairPrice at h
  unfold noCross at hnc
  unfold bidOK askOK
  rcases hb : b.price with _ | pb <;> rcases hs : s.price with _ | ps <;>
    simp [hb, hs] at h hnc ⊢
  · exact le_of_eq h
  · exact le_of_eq h.symm
  · split at h
    · split at h <;> simp at h <;> subst h <;> simp [hnc]
    · split at h <;> simp at h <;> subst h <;> simp [hnc]

theorem roundPrice_none {ps : List (Pair P)} (h : roundPrice ps = none) :
    ∀ pr ∈ ps, pairPrice pr.b pr.s = none := by
  induction ps with
  | nil => simp
  | cons q qs ih =>
    unfold roundPrice at h
    rcases hq : roundPrice qs with _ | x
    · rw [hq] at h
      exact List.forall_mem_cons.mpr ⟨h, ih hq⟩
    · simp [hq] at h

theorem roundPrice_nil_none : roundPrice ([] : List (Pair P)) = none := rfl

/-- On sorted sides the round price respects the limit of every matched order, and of every order
that no matched order of its side outranks. -/
theorem walk_price_ok (bs ss : List (Order P)) (p : P)
    (hbs : Sorted bs) (hss : Sorted ss)
    (hbside : ∀ o ∈ bs, o.isBuy = true) (hsside : ∀ o ∈ ss, o.isBuy = false)
    (hp : roundPrice (walk bs ss).1 = some p) :
    (∀ pr ∈ (walk bs ss).1, bidOK p pr.b ∧ askOK p pr.s) ∧
      (∀ b0, (∀ pr ∈ (walk bs ss).1, pr.b.lt b0 = false) → bidOK p b0) ∧
      (∀ s0, (∀ pr ∈ (walk bs ss).1, pr.s.lt s0 = false) → askOK p s0) := by
  -- the second and third clause carry the induction: when a later pair sets the price, the heads matched now
  -- are orders that no later matched order outranks
  induction bs, ss using walk_induct with
  | stop bs ss h => rw [walk_stop h] at hp; cases hp
  | step b bs s ss hnc ih =>
    have hw := walk_within (rest b s.vol bs) (rest s b.vol ss)
    have hwb := not_lt_head hbs hbside hw.1.of_rest
    have hws := not_lt_head hss hsside hw.2.of_rest
    rw [walk_step bs ss hnc] at hp ⊢
    simp only [roundPrice] at hp
    rcases hr : roundPrice (walk (rest b s.vol bs) (rest s b.vol ss)).1 with _ | x
    · -- the head pair sets the price; the pairs after it are market/market
      rw [hr] at hp
      have hok := pairPrice_ok hp hnc
      refine ⟨List.forall_mem_cons.mpr ⟨hok, fun pr hpr => ?_⟩,
        fun b0 h0 => bidOK_of_not_lt (hbside b List.mem_cons_self) (h0 _ List.mem_cons_self) hok.1,
        fun s0 h0 => askOK_of_not_lt (hsside s List.mem_cons_self) (h0 _ List.mem_cons_self) hok.2⟩
      have hn := pairPrice_none (roundPrice_none hr pr hpr)
      exact ⟨fun pb h => by simp [hn.1] at h, fun ps h => by simp [hn.2] at h⟩
    · -- a later pair sets the price; no later pair outranks the heads
      rw [hr] at hp
      cases hp
      have ih' := ih (sorted_rest hbs _) (sorted_rest hss _) (side_rest hbside _)
        (side_rest hsside _) hr
      exact ⟨List.forall_mem_cons.mpr
          ⟨⟨ih'.2.1 b fun pr hpr => hwb _ (List.mem_append_left _ (List.mem_map_of_mem hpr)),
            ih'.2.2 s fun pr hpr => hws _ (List.mem_append_left _ (List.mem_map_of_mem hpr))⟩,
           ih'.1⟩,
        fun b0 h0 => ih'.2.1 b0 fun pr hpr => h0 pr (List.mem_cons_of_mem _ hpr),
        fun s0 h0 => ih'.2.2 s0 fun pr hpr => h0 pr (List.mem_cons_of_mem _ hpr)⟩

/-- C01 core: on sorted sides the round price respects the limit of *every* matched order. -/
theorem walk_price_bound (bs ss : List (Order P)) (p : P)
    (hbs : Sorted bs) (hss : Sorted ss)
    (hbside : ∀ o ∈ bs, o.isBuy = true) (hsside : ∀ o ∈ ss, o.isBuy = false)
    (hp : roundPrice (walk bs ss).1 = some p) :
    (∀ pr ∈ (walk bs ss).1, bidOK p pr.b ∧ askOK p pr.s) ∧
      (∀ b0 ∈ bs.head?, bidOK p b0) ∧ (∀ s0 ∈ ss.head?, askOK p s0) := by
  have h := walk_price_ok bs ss p hbs hss hbside hsside hp
  have hw := walk_within bs ss
  refine ⟨h.1, fun b0 hb0 => h.2.1 b0 fun pr hpr => ?_, fun s0 hs0 => h.2.2 s0 fun pr hpr => ?_⟩
  · obtain ⟨bs', rfl⟩ := List.head?_eq_some_iff.mp hb0
    exact not_lt_head hbs hbside hw.1 _ (List.mem_append_left _ (List.mem_map_of_mem hpr))
  · obtain ⟨ss', rfl⟩ := List.head?_eq_some_iff.mp hs0
    exact not_lt_head hss hsside hw.2 _ (List.mem_append_left _ (List.mem_map_of_mem hpr))

def volOf (id : Nat) (l : List (Order P)) : Nat :=
  (l.map (fun o => if o.id = id then o.vol else 0)).sum

def buyFilled (id : Nat) (ps : List (Pair P)) : Nat :=
  (ps.map (fun pr => if pr.b.id = id then pr.vol else 0)).sum
def sellFilled (id : Nat) (ps : List (Pair P)) : Nat :=
  (ps.map (fun pr => if pr.s.id = id then pr.vol else 0)).sum

theorem volOf_rest (id : Nat) (x : Order P) (v : Nat) (xs : List (Order P)) :
    volOf id (x :: xs) = (if x.id = id then min x.vol v else 0) + volOf id (rest x v xs) := by
  by_cases hv : v < x.vol <;> by_cases h : x.id = id <;> simp [rest, volOf, hv, h] <;> omega

/-- C04 core: the walk conserves every order's volume: what it had = what was matched + what
remains. -/
theorem walk_conserve (bs ss : List (Order P)) (id : Nat) :
    volOf id bs = buyFilled id (walk bs ss).1 + volOf id (walk bs ss).2.1 ∧
    volOf id ss = sellFilled id (walk bs ss).1 + volOf id (walk bs ss).2.2 := by
  induction bs, ss using walk_induct with
  | stop bs ss h => rw [walk_stop h]; simp [buyFilled, sellFilled]
  | step b bs s ss hnc ih =>
    rw [walk_step bs ss hnc, volOf_rest id b s.vol, volOf_rest id s b.vol, ih.1, ih.2]
    simp [buyFilled, sellFilled, Nat.min_comm, Nat.add_assoc]

def hasLimitPair (ps : List (Pair P)) : Prop :=
  ∃ pr ∈ ps, pr.b.price ≠ none ∨ pr.s.price ≠ none

theorem pairPrice_some_of_limit (b s : Order P) (h : b.price ≠ none ∨ s.price ≠ none) :
    pairPrice b s ≠ none :=
  fun hn => h.elim (fun h => h (pairPrice_none hn).1) (fun h => h (pairPrice_none hn).2)

theorem roundPrice_some_of_hasLimitPair {ps : List (Pair P)} (h : hasLimitPair ps) :
    roundPrice ps ≠ none := by
  obtain ⟨pr, hpr, hl⟩ := h
  exact fun hn => pairPrice_some_of_limit _ _ hl (roundPrice_none hn pr hpr)

theorem hasLimitPair_cons_of (p : Pair P) {ps : List (Pair P)} (h : hasLimitPair ps) :
    hasLimitPair (p :: ps) := by
  obtain ⟨pr, hpr, hl⟩ := h
  exact ⟨pr, List.mem_cons_of_mem _ hpr, hl⟩

/-- market orders rank first -/
theorem all_limit_of_head_limit {b : Order P} {bs : List (Order P)} (h : Sorted (b :: bs))
    (hb : b.price ≠ none) : ∀ x ∈ b :: bs, x.price ≠ none := by
  refine List.forall_mem_cons.mpr ⟨hb, fun x hx hxp => ?_⟩
  have := (lt_iff_ranksBefore b x).mp ((List.pairwise_cons.mp h).1 x hx)
  unfold ranksBefore at this
  rcases hbp : b.price with _ | pb
  · exact hb hbp
  · simp [hbp, hxp] at this

theorem mktVol_zero_of_all_limit {l : List (Order P)} (hall : ∀ x ∈ l, x.price ≠ none) :
    mktVol l = 0 := by
  induction l with
  | nil => rfl
  | cons y ys ih =>
    have hy := List.forall_mem_cons.mp hall
    simp [mktVol, hy.1, ih hy.2]

theorem mktVol_zero_of_head_limit {b : Order P} {bs : List (Order P)} (h : Sorted (b :: bs))
    (hb : b.price ≠ none) : mktVol (b :: bs) = 0 :=
  mktVol_zero_of_all_limit (all_limit_of_head_limit h hb)

theorem mktVol_cons_market (b : Order P) (bs : List (Order P)) (hb : b.price = none) :
    mktVol (b :: bs) = b.vol + mktVol bs := by
  simp [mktVol, hb]

theorem bestLimit_cons_market (b : Order P) (bs : List (Order P)) (hb : b.price = none) :
    bestLimit (b :: bs) = bestLimit bs := by
  simp [bestLimit, hb]

theorem mktVol_rest {x : Order P} (hx : x.price = none) (v : Nat) (xs : List (Order P)) :
    mktVol (x :: xs) = min x.vol v + mktVol (rest x v xs) := by
  by_cases hv : v < x.vol <;> simp [rest, mktVol_cons_market, hv, hx] <;> omega

theorem bestLimit_rest {x : Order P} (hx : x.price = none) (v : Nat) (xs : List (Order P)) :
    bestLimit (x :: xs) = bestLimit (rest x v xs) := by
  by_cases hv : v < x.vol <;> simp [rest, bestLimit_cons_market, hv, hx]

/-- the three situations in which `remain_executable_orders` answers "yes" with market orders on
top of both sides -/
def bothMarketExecutable (bs ss : List (Order P)) : Prop :=
  (mktVol ss < mktVol bs ∧ bestLimit ss ≠ none) ∨
  (mktVol bs < mktVol ss ∧ bestLimit bs ≠ none) ∨
  (mktVol bs = mktVol ss ∧ ∃ a c, bestLimit ss = some a ∧ bestLimit bs = some c ∧ a ≤ c)

theorem walk_hasLimitPair (bs ss : List (Order P)) (hbs : Sorted bs) (hss : Sorted ss)
    (h : bothMarketExecutable bs ss) : hasLimitPair (walk bs ss).1 := by
  induction bs, ss using walk_induct with
  | stop bs ss hstop =>
    -- a side is empty, or both heads are limit orders that do not cross: no market order at all
    exfalso
    unfold bothMarketExecutable at h
    rcases bs with _ | ⟨b, bs⟩
    · simp [mktVol, bestLimit] at h
    rcases ss with _ | ⟨s, ss⟩
    · simp [mktVol, bestLimit] at h
    obtain ⟨pb, ps, hb, hs, hlt⟩ := noCross_iff.mp (hstop b rfl s rfl)
    rw [mktVol_zero_of_head_limit hbs (by simp [hb]), mktVol_zero_of_head_limit hss (by simp [hs])] at h
    simp [bestLimit, hb, hs] at h
    exact absurd (lt_of_lt_of_le hlt h) (lt_irrefl _)
  | step b bs s ss hnc ih =>
    rw [walk_step bs ss hnc]
    by_cases hm : b.price = none ∧ s.price = none
    · -- market against market: the same situation one step on
      apply hasLimitPair_cons_of
      apply ih (sorted_rest hbs _) (sorted_rest hss _)
      unfold bothMarketExecutable at h ⊢
      rw [mktVol_rest hm.1 s.vol, mktVol_rest hm.2 b.vol, Nat.min_comm s.vol,
        bestLimit_rest hm.1 s.vol, bestLimit_rest hm.2 b.vol] at h
      simpa using h
    · exact ⟨_, List.mem_cons_self, Classical.not_and_iff_not_or_not.mp hm⟩

theorem bestLimit_eq_none {l : List (Order P)} (h : bestLimit l = none) :
    ∀ x ∈ l, x.price = none := by
  induction l with
  | nil => simp
  | cons y ys ih =>
    unfold bestLimit at h
    rcases hy : y.price with _ | py
    · rw [hy] at h
      exact List.forall_mem_cons.mpr ⟨hy, ih h⟩
    · simp [hy] at h

theorem limitLevels_zero_of_bestLimit_none {l : List (Order P)} (h : bestLimit l = none) :
    limitLevels l = 0 := by
  unfold limitLevels
  rw [List.length_eq_zero_iff, List.filter_eq_nil_iff]
  intro pv hpv
  obtain ⟨o, ho, hop⟩ := depth_price_mem l pv hpv
  simp [← hop, bestLimit_eq_none h o ho]

theorem bothMarketExecutable_of_remainExecutable {b s : Order P} {bs ss : List (Order P)}
    (hb : b.price = none) (hs : s.price = none)
    (h : remainExecutable (b :: bs) (s :: ss) = true) : bothMarketExecutable (b :: bs) (s :: ss) := by
  simp only [remainExecutable, hb, hs] at h
  unfold bothMarketExecutable
  split at h
  · split at h <;> rename_i hlt <;> simp only [decide_eq_true_eq] at h
    · exact .inl ⟨hlt, fun hbl => by have := limitLevels_zero_of_bestLimit_none hbl; omega⟩
    · exact .inr (.inl ⟨by omega, fun hbl => by
        have := limitLevels_zero_of_bestLimit_none hbl; omega⟩)
  · rename_i heq
    split at h
    · rename_i a c ha hc
      exact .inr (.inr ⟨(Decidable.not_not.mp heq).symm, a, c, ha, hc, of_decide_eq_true h⟩)
    · cases h

/-- C03 core: an executable book always yields a round price (the `price is None` assertion is
unreachable). -/
theorem roundPrice_some_of_executable (bs ss : List (Order P)) (hbs : Sorted bs)
    (hss : Sorted ss) (h : remainExecutable bs ss = true) :
    roundPrice (walk bs ss).1 ≠ none := by
  apply roundPrice_some_of_hasLimitPair
  rcases bs with _ | ⟨b, bs⟩ <;> rcases ss with _ | ⟨s, ss⟩ <;>
    try (simp [remainExecutable] at h; done)
  by_cases hm : b.price = none ∧ s.price = none
  · exact walk_hasLimitPair _ _ hbs hss (bothMarketExecutable_of_remainExecutable hm.1 hm.2 h)
  · -- a limit order on top: the heads cross and form the first pair
    have hlim := Classical.not_and_iff_not_or_not.mp hm
    rw [remainExecutable_of_limit bs ss hlim, Bool.not_eq_true'] at h
    rw [walk_step bs ss h]
    exact ⟨_, List.mem_cons_self, hlim⟩

def lastPairPrice (ps : List (Pair P)) : Option P :=
  match ps.getLast? with
  | none => none
  | some pr => pairPrice pr.b pr.s

theorem lastPairPrice_none {ps : List (Pair P)} (hne : ps ≠ []) (h : lastPairPrice ps = none) :
    ∃ pr ∈ ps, pairPrice pr.b pr.s = none := by
  unfold lastPairPrice at h
  rcases hgl : ps.getLast? with _ | pr
  · exact absurd (List.getLast?_eq_none_iff.mp hgl) hne
  · rw [hgl] at h
    exact ⟨pr, List.mem_of_getLast? hgl, h⟩

theorem head_market_of_within {b y : Order P} {bs : List (Order P)} (h : Sorted (b :: bs))
    (hy : ∃ y0 ∈ b :: bs, sameOrder y y0) (hm : y.price = none) : b.price = none := by
  obtain ⟨y0, hy0, hso⟩ := hy
  by_contra hb
  exact all_limit_of_head_limit h hb y0 hy0 (hso.price ▸ hm)

/-- C01 core: on sorted sides the round price is the proposal of the *last* matched pair. -/
theorem roundPrice_eq_last (bs ss : List (Order P)) (hbs : Sorted bs) (hss : Sorted ss) :
    roundPrice (walk bs ss).1 = lastPairPrice (walk bs ss).1 := by
  induction bs, ss using walk_induct with
  | stop bs ss h => rw [walk_stop h]; rfl
  | step b bs s ss hnc ih =>
    have hmem := walk_pairs_mem (b :: bs) (s :: ss)
    have ih' := ih (sorted_rest hbs _) (sorted_rest hss _)
    rw [walk_step bs ss hnc] at hmem ⊢
    rcases hps : (walk (rest b s.vol bs) (rest s b.vol ss)).1 with _ | ⟨q, qs⟩
    · simp [roundPrice, lastPairPrice]
    · rw [hps] at ih' hmem
      have hl : lastPairPrice (⟨min b.vol s.vol, b, s⟩ :: q :: qs) = lastPairPrice (q :: qs) := by
        simp [lastPairPrice, List.getLast?_cons_cons]
      rw [hl, roundPrice, ih']
      rcases hq : lastPairPrice (q :: qs) with _ | x
      · -- the last pair is market/market; it comes after the heads on either side
        obtain ⟨pr, hpr, hn⟩ := lastPairPrice_none (by simp) hq
        have hpr' := hmem pr (List.mem_cons_of_mem _ hpr)
        have hn := pairPrice_none hn
        simp [pairPrice, head_market_of_within hbs hpr'.1 hn.1,
          head_market_of_within hss hpr'.2 hn.2]
      · rfl

end Pams
