/-
`Simulator._add_agent` / `_add_market` / `_add_session` as they stand in /repo (translated:
`PamsGen.Code`): a market or a session is registered once, ids and names are unique, and an agent is filed as
high-frequency exactly if its class descends from `HighFrequencyAgent` (class ancestry read off the `class`
statements) — by symbolic execution, with the new entity's id quantified.

Setting: a simulator (address 3) holding two agents (ids 1 and 2, names "a1", "a2", addresses 21, 22; agent 2 is
high-frequency), and the new agent at address 23 (id = int atom 1, name and class = shape).
-/
import PamsLemmas.Agree
import PamsGen.Code
import PamsLemmas.SrcOrder

namespace Pams.Src
open Pams Pams.Py Pams.Py.Tree

variable {K : Type} [LinearOrder K] [NumOpsC K]

def regSim : String → Option Val
  | "__class__" => some (.str "Simulator")
  | "agents" => some (.list [.ref 21, .ref 22])
  | "n_agents" => some (.int (.atom 9))
  | "id2agent" => some (.dict [.int (.lit 1), .int (.lit 2)] [.ref 21, .ref 22])
  | "name2agent" => some (.dict [.str "a1", .str "a2"] [.ref 21, .ref 22])
  | "high_frequency_agents" => some (.list [.ref 22])
  | "normal_frequency_agents" => some (.list [.ref 21])
  | "agents_group_name2agent" => some (.dict [.str "G"] [.list [.ref 21]])
  | _ => none

def regAgent (cls name : String) : String → Option Val
  | "__class__" => some (.str cls)
  | "agent_id" => some (.int (.atom 1))
  | "name" => some (.str name)
  | _ => none

def agSt (cls name : String) : St :=
  { heap := fun a => if a = 3 then regSim else if a = 23 then regAgent cls name else fun _ => none, calls := [] }

def agGlobals : String → Option Val := fun x =>
  if x = "HighFrequencyAgent" then some (.str "HighFrequencyAgent") else globals x

def agEnv : Env := { prog := PamsGen.Code.prog, globals := agGlobals, ext := fun _ _ _ _ => none, mro := PamsGen.Code.mroOf }

def listO (st : St) (f : String) : Obs :=
  match st.heap 3 f with
  | some (.list l) => .tuple (l.map Obs.ofVal)
  | some (.dict ks vs) => .tuple [.tuple (ks.map Obs.ofVal), .tuple (vs.map (fun v => match v with
      | .list l => .tuple (l.map Obs.ofVal) | w => Obs.ofVal w))]
  | _ => .absent

/-- the registry afterwards -/
def agObs : Except Py.Err (Val × St) → Obs
  | .ok (_, st) => .tuple [listO st "agents", Obs.ofOpt (st.heap 3 "n_agents"), listO st "id2agent", listO st "name2agent",
                           listO st "high_frequency_agents", listO st "normal_frequency_agents",
                           listO st "agents_group_name2agent"]
  | .error e => .err e

def rhoAg (id n : Int) : Rho K :=
  { i := fun k => if k = 1 then id else n, n := fun _ => PyNum.ofInt 0, b := fun _ => false }

section
variable (id n : Int)
@[py_eval] theorem rhoAg_i1 : (rhoAg (K := K) id n).i 1 = id := rfl
end

/-- the registry after a successful registration of the agent at 23 under id `id` -/
def agExpected (id n : Int) (hft : Bool) (groups : CObs K) : CObs K :=
  .tuple [.tuple [.ref 21, .ref 22, .ref 23], .int (n + 1),
          .tuple [.tuple [.int 1, .int 2, .int id], .tuple [.ref 21, .ref 22, .ref 23]],
          .tuple [.tuple [.str "a1", .str "a2", .str "a3"], .tuple [.ref 21, .ref 22, .ref 23]],
          .tuple (if hft then [.ref 22, .ref 23] else [.ref 22]),
          .tuple (if hft then [.ref 21] else [.ref 21, .ref 23]), groups]

section
open ITerm BTerm Tree

/-- ids 1 and 2 are taken: the new id (int atom 1) is compared with each in turn -/
def regT (ok : Obs) : Tree Obs :=
  node (ieq (atom 1) (lit 1)) (fun _ => raiseT "ValueError")
    (fun _ => node (ieq (atom 1) (lit 2)) (fun _ => raiseT "ValueError") (fun _ => leaf ok))

/-- a registry of `refs` / `names` after the new entity (last in both lists) came in under its id, int atom 1;
`rest`: what else is observed of the kind of entity -/
def regO (refs : List Nat) (names : List String) (rest : List Obs) : Obs :=
  .tuple (.tuple (refs.map .ref) :: .int (add (atom 9) (lit 1)) ::
          .tuple [.tuple [.int (lit 1), .int (lit 2), .int (atom 1)], .tuple (refs.map .ref)] ::
          .tuple [.tuple (names.map .str), .tuple (refs.map .ref)] :: rest)
end

theorem reg_src {g : Except Py.Err (Val × St) → Obs} {fn : String} {args : List Val} {st : St} {ok : Obs}
    (id n : Int) {c : CObs K} (h : agreesP g agEnv FUEL fn args st (regT ok) = true) (hc : ok.eval (rhoAg id n) = c) :
    resultG g (rhoAg id n) agEnv FUEL fn args st = if id = 1 ∨ id = 2 then .err (.raise "ValueError") else c := by
  rw [resultG_eq_of_agreeP _ h, ← hc]
  by_cases h1 : id = 1
  · simp [regT, py_eval, h1]
  · by_cases h2 : id = 2 <;> simp [regT, py_eval, h1, h2]

def agO (hft : Bool) (groups : Obs) : Obs :=
  regO [21, 22, 23] ["a1", "a2", "a3"]
    [.tuple (if hft then [.ref 22, .ref 23] else [.ref 22]), .tuple (if hft then [.ref 21] else [.ref 21, .ref 23]), groups]

/-- a registration checked: the arguments of the call (simulator, entity, group), the state, and the tree the run
agrees with -/
structure RegCase where
  args : List Val
  st : St
  tree : Tree Obs

/-- an `FCNAgent` joins the group "G" -/
def agJoins : RegCase :=
  ⟨[.ref 3, .ref 23, .str "G"], agSt "FCNAgent" "a3",
    regT (agO false (.tuple [.tuple [.str "G"], .tuple [.tuple [.ref 21, .ref 23]]]))⟩
/-- an `ArbitrageAgent` opens the group "H" -/
def agNewGroup : RegCase :=
  ⟨[.ref 3, .ref 23, .str "H"], agSt "ArbitrageAgent" "a3",
    regT (agO true (.tuple [.tuple [.str "G", .str "H"], .tuple [.tuple [.ref 21], .tuple [.ref 23]]]))⟩
/-- a `MarketMakerAgent` without group -/
def agNoGroup : RegCase :=
  ⟨[.ref 3, .ref 23, .none], agSt "MarketMakerAgent" "a3", regT (agO true (.tuple [.tuple [.str "G"], .tuple [.tuple [.ref 21]]]))⟩
/-- the name "a2" is in use -/
def agNameTaken : RegCase := ⟨[.ref 3, .ref 23, .none], agSt "FCNAgent" "a2", raiseT "ValueError"⟩

def agCases : List RegCase := [agJoins, agNewGroup, agNoGroup, agNameTaken]

theorem ag_agree : ∀ c ∈ agCases, agreesP agObs agEnv FUEL "Simulator._add_agent" c.args c.st c.tree = true := by
  decide +kernel

/-- **`_add_agent`**: an id already in use is refused; otherwise the agent is appended to the registry, counted,
indexed by id and name, filed as high-frequency iff its class descends from `HighFrequencyAgent`
(`ArbitrageAgent`, `MarketMakerAgent`: yes; `FCNAgent`: no), and added to its group (created if new) -/
theorem registry_src_add_agent (id n : Int) :
    resultG agObs (rhoAg (K := K) id n) agEnv FUEL "Simulator._add_agent" [.ref 3, .ref 23, .str "G"] (agSt "FCNAgent" "a3")
      = (if id = 1 ∨ id = 2 then .err (.raise "ValueError") else
          agExpected id n false (.tuple [.tuple [.str "G"], .tuple [.tuple [.ref 21, .ref 23]]])) ∧
    resultG agObs (rhoAg (K := K) id n) agEnv FUEL "Simulator._add_agent" [.ref 3, .ref 23, .str "H"] (agSt "ArbitrageAgent" "a3")
      = (if id = 1 ∨ id = 2 then .err (.raise "ValueError") else
          agExpected id n true (.tuple [.tuple [.str "G", .str "H"], .tuple [.tuple [.ref 21], .tuple [.ref 23]]])) ∧
    resultG agObs (rhoAg (K := K) id n) agEnv FUEL "Simulator._add_agent" [.ref 3, .ref 23, .none] (agSt "MarketMakerAgent" "a3")
      = (if id = 1 ∨ id = 2 then .err (.raise "ValueError") else
          agExpected id n true (.tuple [.tuple [.str "G"], .tuple [.tuple [.ref 21]]])) :=
  ⟨reg_src id n (ag_agree agJoins (by simp [agCases])) rfl, reg_src id n (ag_agree agNewGroup (by simp [agCases])) rfl,
    reg_src id n (ag_agree agNoGroup (by simp [agCases])) rfl⟩

/-- a name already in use is refused whatever the id -/
theorem registry_src_duplicate_name (id n : Int) :
    resultG agObs (rhoAg (K := K) id n) agEnv FUEL "Simulator._add_agent" [.ref 3, .ref 23, .none] (agSt "FCNAgent" "a2")
      = .err (.raise "ValueError") :=
  resultG_eq_of_agreeP _ (ag_agree agNameTaken (by simp [agCases]))

/-! ### `_add_market` and `_add_session`

Setting: the simulator (address 4) holds two markets (ids 1 and 2, names "m1", "m2", addresses 31, 32; group "G" =
[31]) and two sessions (ids 1, 2, names "s1", "s2", addresses 41, 42); the new market is at address 33 and the
new session at 43 (id = int atom 1, name = shape). -/

def regSim2 : String → Option Val
  | "__class__" => some (.str "Simulator")
  | "markets" => some (.list [.ref 31, .ref 32])
  | "n_markets" => some (.int (.atom 9))
  | "id2market" => some (.dict [.int (.lit 1), .int (.lit 2)] [.ref 31, .ref 32])
  | "name2market" => some (.dict [.str "m1", .str "m2"] [.ref 31, .ref 32])
  | "markets_group_name2market" => some (.dict [.str "G"] [.list [.ref 31]])
  | "sessions" => some (.list [.ref 41, .ref 42])
  | "n_sessions" => some (.int (.atom 9))
  | "id2session" => some (.dict [.int (.lit 1), .int (.lit 2)] [.ref 41, .ref 42])
  | "name2session" => some (.dict [.str "s1", .str "s2"] [.ref 41, .ref 42])
  | _ => none

def regMarket (name : String) : String → Option Val
  | "__class__" => some (.str "Market")
  | "market_id" => some (.int (.atom 1))
  | "name" => some (.str name)
  | _ => none

def regSession (name : String) : String → Option Val
  | "__class__" => some (.str "Session")
  | "session_id" => some (.int (.atom 1))
  | "name" => some (.str name)
  | _ => none

def mkSt (name : String) : St :=
  { heap := fun a => if a = 4 then regSim2 else if a = 33 then regMarket name else if a = 43 then regSession name
                     else fun _ => none, calls := [] }

def listO4 (st : St) (f : String) : Obs :=
  match st.heap 4 f with
  | some (.list l) => .tuple (l.map Obs.ofVal)
  | some (.dict ks vs) => .tuple [.tuple (ks.map Obs.ofVal), .tuple (vs.map (fun v => match v with
      | .list l => .tuple (l.map Obs.ofVal) | w => Obs.ofVal w))]
  | _ => .absent

/-- the market registry afterwards -/
def mkObs : Except Py.Err (Val × St) → Obs
  | .ok (_, st) => .tuple [listO4 st "markets", Obs.ofOpt (st.heap 4 "n_markets"), listO4 st "id2market",
                           listO4 st "name2market", listO4 st "markets_group_name2market"]
  | .error e => .err e

/-- the session registry afterwards -/
def seObs : Except Py.Err (Val × St) → Obs
  | .ok (_, st) => .tuple [listO4 st "sessions", Obs.ofOpt (st.heap 4 "n_sessions"), listO4 st "id2session",
                           listO4 st "name2session"]
  | .error e => .err e

def mkExpected (id n : Int) (groups : CObs K) : CObs K :=
  .tuple [.tuple [.ref 31, .ref 32, .ref 33], .int (n + 1),
          .tuple [.tuple [.int 1, .int 2, .int id], .tuple [.ref 31, .ref 32, .ref 33]],
          .tuple [.tuple [.str "m1", .str "m2", .str "m3"], .tuple [.ref 31, .ref 32, .ref 33]], groups]

def mkO (groups : Obs) : Obs := regO [31, 32, 33] ["m1", "m2", "m3"] [groups]

/-- a market joins the group "G" -/
def mkJoins : RegCase :=
  ⟨[.ref 4, .ref 33, .str "G"], mkSt "m3", regT (mkO (.tuple [.tuple [.str "G"], .tuple [.tuple [.ref 31, .ref 33]]]))⟩
/-- a market opens the group "H" -/
def mkNewGroup : RegCase :=
  ⟨[.ref 4, .ref 33, .str "H"], mkSt "m3",
    regT (mkO (.tuple [.tuple [.str "G", .str "H"], .tuple [.tuple [.ref 31], .tuple [.ref 33]]]))⟩
/-- a market without group -/
def mkNoGroup : RegCase :=
  ⟨[.ref 4, .ref 33, .none], mkSt "m3", regT (mkO (.tuple [.tuple [.str "G"], .tuple [.tuple [.ref 31]]]))⟩
/-- the name "m2" is in use -/
def mkNameTaken : RegCase := ⟨[.ref 4, .ref 33, .none], mkSt "m2", raiseT "ValueError"⟩
/-- the market at 31 is registered already -/
def mkTwice : RegCase := ⟨[.ref 4, .ref 31, .none], mkSt "m3", raiseT "ValueError"⟩

def mkCases : List RegCase := [mkJoins, mkNewGroup, mkNoGroup, mkNameTaken, mkTwice]

theorem mk_agree : ∀ c ∈ mkCases, agreesP mkObs agEnv FUEL "Simulator._add_market" c.args c.st c.tree = true := by
  decide +kernel

def seNew : RegCase := ⟨[.ref 4, .ref 43], mkSt "s3", regT (regO [41, 42, 43] ["s1", "s2", "s3"] [])⟩
/-- the name "s1" is in use -/
def seNameTaken : RegCase := ⟨[.ref 4, .ref 43], mkSt "s1", raiseT "ValueError"⟩
/-- the session at 42 is registered already -/
def seTwice : RegCase := ⟨[.ref 4, .ref 42], mkSt "s3", raiseT "ValueError"⟩

def seCases : List RegCase := [seNew, seNameTaken, seTwice]

theorem se_agree : ∀ c ∈ seCases, agreesP seObs agEnv FUEL "Simulator._add_session" c.args c.st c.tree = true := by
  decide +kernel

/-- **`_add_market`**: an id already in use is refused; otherwise the market is appended, counted, indexed by id and
name and added to its group (created if new; no group if `None`) — for every id value -/
theorem registry_src_add_market (id n : Int) :
    resultG mkObs (rhoAg (K := K) id n) agEnv FUEL "Simulator._add_market" [.ref 4, .ref 33, .str "G"] (mkSt "m3")
      = (if id = 1 ∨ id = 2 then .err (.raise "ValueError") else
          mkExpected id n (.tuple [.tuple [.str "G"], .tuple [.tuple [.ref 31, .ref 33]]])) ∧
    resultG mkObs (rhoAg (K := K) id n) agEnv FUEL "Simulator._add_market" [.ref 4, .ref 33, .str "H"] (mkSt "m3")
      = (if id = 1 ∨ id = 2 then .err (.raise "ValueError") else
          mkExpected id n (.tuple [.tuple [.str "G", .str "H"], .tuple [.tuple [.ref 31], .tuple [.ref 33]]])) ∧
    resultG mkObs (rhoAg (K := K) id n) agEnv FUEL "Simulator._add_market" [.ref 4, .ref 33, .none] (mkSt "m3")
      = (if id = 1 ∨ id = 2 then .err (.raise "ValueError") else
          mkExpected id n (.tuple [.tuple [.str "G"], .tuple [.tuple [.ref 31]]])) :=
  ⟨reg_src id n (mk_agree mkJoins (by simp [mkCases])) rfl, reg_src id n (mk_agree mkNewGroup (by simp [mkCases])) rfl,
    reg_src id n (mk_agree mkNoGroup (by simp [mkCases])) rfl⟩

/-- a market name already in use, or a market object already registered, is refused whatever the id -/
theorem registry_src_market_refusals (id n : Int) :
    resultG mkObs (rhoAg (K := K) id n) agEnv FUEL "Simulator._add_market" [.ref 4, .ref 33, .none] (mkSt "m2")
      = .err (.raise "ValueError") ∧
    resultG mkObs (rhoAg (K := K) id n) agEnv FUEL "Simulator._add_market" [.ref 4, .ref 31, .none] (mkSt "m3")
      = .err (.raise "ValueError") :=
  ⟨resultG_eq_of_agreeP _ (mk_agree mkNameTaken (by simp [mkCases])),
    resultG_eq_of_agreeP _ (mk_agree mkTwice (by simp [mkCases]))⟩

/-- **`_add_session`**: an id or a name already in use, or a session already registered, is refused; otherwise the
session is appended, counted and indexed by id and name — for every id value -/
theorem registry_src_add_session (id n : Int) :
    resultG seObs (rhoAg (K := K) id n) agEnv FUEL "Simulator._add_session" [.ref 4, .ref 43] (mkSt "s3")
      = (if id = 1 ∨ id = 2 then .err (.raise "ValueError") else
          .tuple [.tuple [.ref 41, .ref 42, .ref 43], .int (n + 1),
                  .tuple [.tuple [.int 1, .int 2, .int id], .tuple [.ref 41, .ref 42, .ref 43]],
                  .tuple [.tuple [.str "s1", .str "s2", .str "s3"], .tuple [.ref 41, .ref 42, .ref 43]]]) ∧
    resultG seObs (rhoAg (K := K) id n) agEnv FUEL "Simulator._add_session" [.ref 4, .ref 43] (mkSt "s1")
      = .err (.raise "ValueError") ∧
    resultG seObs (rhoAg (K := K) id n) agEnv FUEL "Simulator._add_session" [.ref 4, .ref 42] (mkSt "s3")
      = .err (.raise "ValueError") :=
  ⟨reg_src id n (se_agree seNew (by simp [seCases])) rfl, resultG_eq_of_agreeP _ (se_agree seNameTaken (by simp [seCases])),
    resultG_eq_of_agreeP _ (se_agree seTwice (by simp [seCases]))⟩

end Pams.Src
