/-
`Market._add_order` of the current source = the model's `Market.addOrder` (see SrcAddDefs.lean for the
setting, the header of Agree.lean for the method).
-/
import PamsLemmas.SrcAddDefs

namespace Pams.Src
open Pams Pams.Py
variable {K : Type}

section
variable (m : Market K) (r : Req K) (o : Order K) (tick d : K)
@[py_eval] theorem rhoAdd_i12 : (rhoAdd m r o tick d).i 12 = r.agent := rfl
@[py_eval] theorem rhoAdd_i13 : (rhoAdd m r o tick d).i 13 = r.vol := rfl
@[py_eval] theorem rhoAdd_i14 : (rhoAdd m r o tick d).i 14 = (r.ttl.getD 0 : Nat) := rfl
@[py_eval] theorem rhoAdd_i51 : (rhoAdd m r o tick d).i 51 = m.nextId := rfl
@[py_eval] theorem rhoAdd_i52 : (rhoAdd m r o tick d).i 52 = m.cur.nBuy := rfl
@[py_eval] theorem rhoAdd_i53 : (rhoAdd m r o tick d).i 53 = m.cur.nSell := rfl
@[py_eval] theorem rhoAdd_n1 : (rhoAdd m r o tick d).n 1 = r.price.getD d := rfl
@[py_eval] theorem rhoAdd_n50 : (rhoAdd m r o tick d).n 50 = tick := rfl
@[py_eval] theorem rhoAdd_n53 : (rhoAdd m r o tick d).n 53 = m.cur.market.getD d := rfl
@[py_eval] theorem rhoAdd_b50 : (rhoAdd m r o tick d).b 50 = m.running := rfl
end

/-- the shape of one side of the book, as `stAdd` takes it -/
def restingOf : List (Order K) → Resting
  | [] => .none
  | o :: _ => if o.price.isSome then .limit else .market

variable [LinearOrder K] [NumOpsC K]

/-! ### `Market.addOrder` as a decision tree over the atoms of `stAdd`

in the order in which the source asks: is the order for this market and unstamped, is its price on the
tick grid (that fixes the accepted price `p`), does it go in front of the resting order (that fixes
the queue `q` of its side), is the market running (that fixes the market price `mk`). -/
section tree
open ITerm NTerm BTerm Tree

def optO : Option NTerm → Obs
  | some p => .num p
  | none => .none

def noExpiryO : Obs := .tuple [.tuple [], .tuple []]

/-- the expiry index of the accepted order's side: `{time + ttl: [order]}` -/
def expiryO (hasTtl : Bool) : Obs :=
  if hasTtl then .tuple [.tuple [.int (add (lit 0) (atom 14))], .tuple [.tuple [.ref 1]]] else noExpiryO

/-- the returned `OrderLog` -/
def logO (isBuy hasTtl : Bool) (p : Obs) : Obs :=
  .tuple [.int (atom 51), .int (lit 0), .int (lit 0), .int (atom 12), .bool (lit isBuy), .int (atom 13), p,
          if hasTtl then .int (atom 14) else .none]

/-- what `addObs` shows of an acceptance at price `p` that leaves the queue `q` on the order's side
and the market price `mk`: the stamps are `_next_order_id` and time 0, the counter of the side goes
up by one, there is no mid-quote (the other side is empty) -/
def acceptedO (isBuy hasTtl : Bool) (p : Obs) (q : List Obs) (mk : NTerm) : Obs :=
  .tuple [p, .int (atom 51), .int (lit 0), .tuple (if isBuy then q else []), .tuple (if isBuy then [] else q),
          if isBuy then expiryO hasTtl else noExpiryO, if isBuy then noExpiryO else expiryO hasTtl,
          .int (add (atom 51) (lit 1)),
          .tuple [.int (if isBuy then add (atom 52) (lit 1) else atom 52)],
          .tuple [.int (if isBuy then atom 53 else add (atom 53) (lit 1))],
          .tuple [.none], .tuple [.num mk], logO isBuy hasTtl p]

/-- an acceptance at price `p` into the queue `q`; the market price is `marketRule` without a mid-quote -/
def acceptedT (isBuy hasTtl hasLast : Bool) (p : Obs) (q : List Obs) : Tree Obs :=
  (marketT (BTerm.atom 50) (optAtom hasLast 52) none (atom 53)).map (acceptedO isBuy hasTtl p q)

/-- the incoming order: price `p`, accepted at time 0 under the id `_next_order_id` -/
def newOrd (p : Option NTerm) : OrdT := ⟨p, lit 0, atom 51⟩

/-- `Book.insert new` into a side holding at most one order (the new order is address 1, the resting one 3) -/
def queueT (isBuy hasTtl hasLast : Bool) (rest : Resting) (p : Option NTerm) : Tree Obs :=
  let accepted := acceptedT isBuy hasTtl hasLast (optO p)
  match rest with
  | .none => accepted [.ref 1]
  | .limit => ltT isBuy (newOrd p) (ordAt 3 true) (accepted [.ref 1, .ref 3]) (accepted [.ref 3, .ref 1])
  | .market => ltT isBuy (newOrd p) (ordAt 3 false) (accepted [.ref 1, .ref 3]) (accepted [.ref 3, .ref 1])

/-- `convert_to_tick_level(price, is_buy) * tick_size` -/
def snappedN (isBuy : Bool) : NTerm :=
  mul (ofInt ((if isBuy then ITerm.floor else ITerm.ceil) (div (atom 1) (atom 50)))) (atom 50)

/-- the accepted price: `snapSrc` of a limit price -/
def snapT (isBuy limit : Bool) : Tree (Option NTerm) :=
  if limit then
    node (neq (fmod (atom 1) (atom 50)) (ofInt (lit 0)))
      (fun _ => leaf (some (atom 1))) (fun _ => leaf (some (snappedN isBuy)))
  else leaf none

/-- `Market.submit`: an order for another market or with a stamp is refused, else `Market.addOrder`.
`price % tick_size` of a limit price raises on a zero tick size, which the model's total `snap` does not
show: the theorems assume `tick ≠ 0`. -/
def addT (isBuy limit hasTtl marketOk stamped : Bool) (rest : Resting) (hasLast : Bool) : Tree Obs :=
  let accept := (snapT isBuy limit).bind (queueT isBuy hasTtl hasLast rest)
  if marketOk && !stamped then (if limit then divT (atom 50) accept else accept) else raiseT "ValueError"
end tree

-- over the shapes the source theorems use; the others (a resting order next to a request with time-to-live or
-- after a trade) double the kernel's work
theorem add_agree : ∀ isBuy limit hasTtl marketOk stamped hasLast : Bool,
    ∀ rest ∈ [Resting.none, .limit, .market], rest = .none ∨ (hasTtl = false ∧ hasLast = false) →
    agreesP addObs env XFUEL "Market._add_order" [.ref 5, .ref 1]
      (stAdd isBuy limit hasTtl stamped (if marketOk then 0 else 1) rest hasLast false)
      (addT isBuy limit hasTtl marketOk stamped rest hasLast) = true := by
  decide +kernel

theorem add_src_tree (isBuy limit hasTtl marketOk stamped hasLast : Bool) (rest : Resting) (ρ : Rho K)
    (hr : rest = .none ∨ (hasTtl = false ∧ hasLast = false)) :
    resultG addObs ρ env XFUEL "Market._add_order" [.ref 5, .ref 1]
        (stAdd isBuy limit hasTtl stamped (if marketOk then 0 else 1) rest hasLast false)
      = ((addT isBuy limit hasTtl marketOk stamped rest hasLast).denote ρ).eval ρ :=
  resultG_eq_of_agreeP ρ (add_agree isBuy limit hasTtl marketOk stamped hasLast rest (by cases rest <;> simp) hr)

/-- an order that names another market, or carries a stamp already, is refused (`ValueError`),
whatever else it and the book look like -/
theorem add_src_refused (isBuy limit hasTtl marketOk stamped hasLast : Bool) (rest : Resting) (ρ : Rho K)
    (hr : rest = .none ∨ (hasTtl = false ∧ hasLast = false)) (h : (marketOk && !stamped) = false) :
    resultG addObs ρ env XFUEL "Market._add_order" [.ref 5, .ref 1]
        (stAdd isBuy limit hasTtl stamped (if marketOk then 0 else 1) rest hasLast false)
      = .err (.raise "ValueError") := by
  rw [add_src_tree _ _ _ _ _ _ _ _ hr, addT, h]
  rfl

section denote
variable (m : Market K) (r : Req K) (o : Order K) (tick d : K)

theorem optO_eval (p : Option NTerm) (x : Option K) (hp : p.map (NTerm.eval (rhoAdd m r o tick d)) = x) :
    (optO p).eval (rhoAdd m r o tick d) = cOpt x := by
  subst hp
  cases p <;> rfl

theorem expiryO_eval (ht : m.time = 0) :
    (expiryO r.ttl.isSome).eval (rhoAdd m r o tick d) =
      match r.ttl with
      | some t => .tuple [.tuple [.int ((m.time : Int) + t)], .tuple [.tuple [.ref 1]]]
      | none => .tuple [.tuple [], .tuple []] := by
  cases h : r.ttl <;> simp [expiryO, noExpiryO, py_eval, h, ht]

theorem logO_eval (isBuy : Bool) (p : Obs) (ht : m.time = 0) :
    (logO isBuy r.ttl.isSome p).eval (rhoAdd m r o tick d) =
      .tuple [.int m.nextId, .int 0, .int m.time, .int r.agent, .bool isBuy, .int r.vol,
              p.eval (rhoAdd m r o tick d), cOptNat r.ttl] := by
  cases h : r.ttl <;> simp [logO, py_eval, h, ht, cOptNat]

theorem acceptedT_denote (new : Order K) (l : List (Order K)) (p : Option NTerm) (q : List Obs) (mp : K)
    (hnew : new = { id := m.nextId, agent := r.agent, isBuy := r.isBuy, price := r.price.map (snapSrc tick r.isBuy),
                    vol := r.vol, placedAt := m.time, ttl := r.ttl })
    (hbook : if r.isBuy then m.buys = l ∧ m.sells = [] else m.buys = [] ∧ m.sells = l)
    (ht : m.time = 0) (hmk : m.cur.market = some mp)
    (hp : p.map (NTerm.eval (rhoAdd m r o tick d)) = new.price)
    (hq : Obs.evalList (rhoAdd m r o tick d) q =
      (Book.insert new l).map (fun x => if x.id = m.nextId then .ref 1 else .ref 3)) :
    ((acceptedT r.isBuy r.ttl.isSome m.cur.last.isSome (optO p) q).denote (rhoAdd m r o tick d)).eval
        (rhoAdd m r o tick d) = modelAddObs m r (m.addOrder (srcOpsT K tick) r) := by
  have hmkt := marketT_denote (rhoAdd m r o tick d) (.atom 50) (optAtom m.cur.last.isSome 52) none (.atom 53)
  simp only [optAtom_eval (rhoAdd m r o tick d) m.cur.last 52 (d := d) rfl, py_eval, Option.map_none, hmk, Option.getD_some] at hmkt
  rw [← hmk] at hmkt
  have hsnap : (srcOpsT K tick).snap = snapSrc tick := rfl
  rw [acceptedT, Tree.denote_map]
  subst hnew
  -- the closing `rfl`: the `match r.ttl` of `expiryO_eval` and that of `modelAddObs` are two auxiliary definitions
  cases hside : r.isBuy <;> simp only [hside, Bool.false_eq_true, if_false, if_true] at hbook hp hq <;>
    simp [acceptedO, modelAddObs, Market.addOrder, Market.refresh, hsnap, hside, hbook.1, hbook.2, py_eval,
      midOf_nil_left, midOf_nil_right, ← hmkt, cOpt, optO_eval m r o tick d p _ hp, expiryO_eval m r o tick d ht,
      logO_eval m r o tick d _ _ ht, noExpiryO, ht, hq] <;>
    rfl

theorem queueT_denote (l : List (Order K)) (p : Option NTerm) (mp : K) (hl : l = [] ∨ l = [o])
    (hbook : if r.isBuy then m.buys = l ∧ m.sells = [] else m.buys = [] ∧ m.sells = l)
    (ht : m.time = 0) (hmk : m.cur.market = some mp) (hoid : l = [o] → o.id ≠ m.nextId)
    (hp : p.map (NTerm.eval (rhoAdd m r o tick d)) = r.price.map (snapSrc tick r.isBuy)) :
    ((queueT r.isBuy r.ttl.isSome m.cur.last.isSome (restingOf l) p).denote (rhoAdd m r o tick d)).eval
        (rhoAdd m r o tick d) = modelAddObs m r (m.addOrder (srcOpsT K tick) r) := by
  obtain ⟨new, hnew⟩ : ∃ new : Order K, new =
      { id := m.nextId, agent := r.agent, isBuy := r.isBuy, price := r.price.map (snapSrc tick r.isBuy),
        vol := r.vol, placedAt := m.time, ttl := r.ttl } := ⟨_, rfl⟩
  have hid : new.id = m.nextId := by rw [hnew]
  have hp' : p.map (NTerm.eval (rhoAdd m r o tick d)) = new.price := by rw [hp, hnew]
  have hacc := fun q => acceptedT_denote m r o tick d new l p q mp hnew hbook ht hmk hp'
  rcases hl with rfl | rfl
  · exact hacc [.ref 1] (by simp [Book.insert, py_eval, hid])
  · have hnewT : (newOrd p).reads (rhoAdd m r o tick d) new :=
      ⟨hp', by simp [newOrd, py_eval, hnew, ht], by simp [newOrd, py_eval, hid]⟩
    have hrestT : (ordAt 3 o.price.isSome).reads (rhoAdd m r o tick d) o := ⟨optAtom_eval _ _ 3 (d := d) rfl, rfl, rfl⟩
    have hlt := fun front back : Tree Obs => ltT_denote hnewT hrestT front back
    rw [show new.isBuy = r.isBuy by rw [hnew]] at hlt
    cases hb : o.price.isSome <;> simp only [hb] at hlt <;>
      simp only [queueT, restingOf, hb, Bool.false_eq_true, if_false, if_true, hlt] <;>
      cases h : new.lt o <;> exact hacc _ (by simp [Book.insert, py_eval, h, hid, hoid rfl])

theorem snapT_denote :
    ((snapT r.isBuy r.price.isSome).denote (rhoAdd m r o tick d)).map (NTerm.eval (rhoAdd m r o tick d)) =
      r.price.map (snapSrc tick r.isBuy) := by
  rcases hpr : r.price with _ | pr
  · rfl
  · by_cases hg : PyNum.fmod pr tick = NumOpsC.ofInt 0
    · simp [snapT, snapSrc, py_eval, hpr, hg]
    · cases hside : r.isBuy <;> simp [snapT, snapSrc, snappedN, py_eval, hpr, hg]

theorem addT_denote (l : List (Order K)) (mp : K) (hl : l = [] ∨ l = [o])
    (hbook : if r.isBuy then m.buys = l ∧ m.sells = [] else m.buys = [] ∧ m.sells = l)
    (ht : m.time = 0) (hmk : m.cur.market = some mp) (htick : tick ≠ NumOpsC.ofInt 0)
    (hoid : l = [o] → o.id ≠ m.nextId) :
    ((addT r.isBuy r.price.isSome r.ttl.isSome true false (restingOf l) m.cur.last.isSome).denote
        (rhoAdd m r o tick d)).eval (rhoAdd m r o tick d) = modelAddObs m r (m.addOrder (srcOpsT K tick) r) := by
  have hq := queueT_denote m r o tick d l _ mp hl hbook ht hmk hoid (snapT_denote m r o tick d)
  cases hpr : r.price <;> simpa [addT, Tree.denote_bind, py_eval, htick, hpr] using hq

end denote

/-- **`Market._add_order` of the current source is the model's `Market.addOrder`** on a book whose
other side is empty and whose side of the incoming order holds at most one order `o` (limit or
market; next to a resting order: a request without time-to-live, no last price yet): for every
request, every tick size ≠ 0, every id counter and step statistics -/
theorem add_src (m : Market K) (r : Req K) (o : Order K) (l : List (Order K)) (tick dflt mp : K)
    (hl : l = [] ∨ l = [o]) (hshape : l = [] ∨ (r.ttl = none ∧ m.cur.last = none))
    (hbook : if r.isBuy then m.buys = l ∧ m.sells = [] else m.buys = [] ∧ m.sells = l)
    (ht : m.time = 0) (hmk : m.cur.market = some mp) (htick : tick ≠ NumOpsC.ofInt 0)
    (hoid : l = [o] → o.id ≠ m.nextId) :
    resultG addObs (rhoAdd m r o tick dflt) env XFUEL "Market._add_order" [.ref 5, .ref 1]
        (stAdd r.isBuy r.price.isSome r.ttl.isSome false 0 (restingOf l) m.cur.last.isSome false)
      = modelAddObs m r (m.addOrder (srcOpsT K tick) r) :=
  (add_src_tree _ _ _ true false _ _ _
      (hshape.imp (fun h => by rw [h]; rfl) (fun h => by simp [h.1, h.2]))).trans
    (addT_denote m r o tick dflt l mp hl hbook ht hmk htick hoid)

-- `hm` (and `hos` below) describe the state `stAdd` stands for; nothing that `addObs` shows depends on them
set_option linter.unusedVariables false in
/-- **acceptance into an empty book**: for every request (side, limit or market, with or without
time-to-live, any price / volume / agent), every tick size ≠ 0, every id counter and step statistics,
the current source of `_add_order` stamps and snaps the order object, fills queue, expiry index,
counters and prices of the step and returns the log exactly as `Market.addOrder` of the model says. -/
theorem add_src_empty (m : Market K) (r : Req K) (o : Order K) (tick dflt mp : K)
    (hb : m.buys = []) (hs : m.sells = []) (ht : m.time = 0) (hm : m.cur.mid = none)
    (hmk : m.cur.market = some mp) (htick : tick ≠ NumOpsC.ofInt 0) :
    resultG addObs (rhoAdd m r o tick dflt) env XFUEL "Market._add_order" [.ref 5, .ref 1]
        (stAdd r.isBuy r.price.isSome r.ttl.isSome false 0 .none m.cur.last.isSome false)
      = modelAddObs m r (m.addOrder (srcOpsT K tick) r) :=
  add_src m r o [] tick dflt mp (Or.inl rfl) (Or.inl rfl) (by simp [hb, hs]) ht hmk htick (by simp)

set_option linter.unusedVariables false in
/-- **acceptance next to one resting order of the same side** (limit or market): the same, and in
particular the queue afterwards is `Book.insert` of the model — the new order goes in front exactly
when `Order.lt new resting`. -/
theorem add_src_one_resting (m : Market K) (r : Req K) (o : Order K) (tick dflt mp : K)
    (hbook : if r.isBuy then m.buys = [o] ∧ m.sells = [] else m.buys = [] ∧ m.sells = [o])
    (hos : o.isBuy = r.isBuy) (httl : r.ttl = none) (ht : m.time = 0) (hl : m.cur.last = none)
    (hm : m.cur.mid = none) (hmk : m.cur.market = some mp) (htick : tick ≠ NumOpsC.ofInt 0)
    (hoid : o.id ≠ m.nextId) :
    resultG addObs (rhoAdd m r o tick dflt) env XFUEL "Market._add_order" [.ref 5, .ref 1]
        (stAdd r.isBuy r.price.isSome false false 0 (if o.price.isSome then .limit else .market) false false)
      = modelAddObs m r (m.addOrder (srcOpsT K tick) r) := by
  simpa only [httl, hl, Option.isSome_none, restingOf] using
    add_src m r o [o] tick dflt mp (Or.inr rfl) (Or.inr ⟨httl, hl⟩) hbook ht hmk htick (fun _ => hoid)

end Pams.Src
