/-
Two more families of the closed-loop model, about its traces: the hook dispatches of a trace are
paired one-to-one with their occurrences (`Paired`, C13), and the records written are one per
accepted submission / cancellation (`SOut.Logged`, C10).
-/
import PamsLemmas.SimLemmas
set_option linter.unusedSectionVars false

namespace Pams.Sim
open Pams Pams.Runner

variable {P : Type} [LinearOrder P]

theorem fillEvents_flatMap (f : Ev → List Nat) (t : Nat) (fs : List RFill) :
    (fillEvents t fs).flatMap f = fs.flatMap (fun x =>
      f (.cbExecuted x.buyer x.ref) ++ f (.cbExecuted x.seller x.ref) ++ f (.hookExecAfter x.ref t)) := by
  induction fs with
  | nil => rfl
  | cons x fs ih => simp [fillEvents, ih]

/-- the hook dispatches of a trace are in one-to-one, order-preserving correspondence with the
occurrences they belong to -/
def Paired (tr : List Ev) : Prop :=
  tr.flatMap hookOrderBeforeRef = tr.flatMap addRef ∧
  tr.flatMap hookCancelBeforeRef = tr.flatMap cancelRef ∧
  tr.flatMap hookOrderAfterRef = tr.flatMap cbSubmittedRef ∧
  tr.flatMap hookCancelAfterRef = tr.flatMap cbCanceledRef ∧
  tr.flatMap hookExecRef = tr.flatMap ledgerRef

theorem flatMap_append_congr {f g : Ev → List Nat} {a b : List Ev} (ha : a.flatMap f = a.flatMap g)
    (hb : b.flatMap f = b.flatMap g) : (a ++ b).flatMap f = (a ++ b).flatMap g := by
  rw [List.flatMap_append, List.flatMap_append, ha, hb]

theorem Paired.append {a b : List Ev} (ha : Paired a) (hb : Paired b) : Paired (a ++ b) :=
  ⟨flatMap_append_congr ha.1 hb.1, flatMap_append_congr ha.2.1 hb.2.1, flatMap_append_congr ha.2.2.1 hb.2.2.1,
    flatMap_append_congr ha.2.2.2.1 hb.2.2.2.1, flatMap_append_congr ha.2.2.2.2 hb.2.2.2.2⟩

theorem Paired.single {e : Ev} (h : hookOrderBeforeRef e = addRef e ∧ hookCancelBeforeRef e = cancelRef e ∧
    hookOrderAfterRef e = cbSubmittedRef e ∧ hookCancelAfterRef e = cbCanceledRef e ∧ hookExecRef e = ledgerRef e) :
    Paired [e] := by
  simpa [Paired] using h

/-- the dispatches after the fills of a round name the fills of its ledger update -/
theorem paired_round (m t : Nat) (fs : List RFill) :
    Paired ([Ev.execution m, Ev.ledger (fs.map (·.ref))] ++ fillEvents t fs) := by
  simp [Paired, fillEvents_flatMap, hookOrderBeforeRef, addRef, hookCancelBeforeRef, cancelRef, hookOrderAfterRef,
    cbSubmittedRef, hookCancelAfterRef, cbCanceledRef, hookExecRef, ledgerRef, List.map_eq_flatMap]

/-- the trace of a processed request is made of segments each of which pairs its own dispatches: the
request's own events, the round -/
theorem paired_request (t : Nat) (flag : Bool) (r : Request) : Paired (Runner.processRequest t flag r).tr := by
  have hown : Paired (ownEvents t r) ∧ Paired ((ownEvents t r).take 2) := by
    unfold ownEvents
    split <;> exact ⟨⟨rfl, rfl, rfl, rfl, rfl⟩, ⟨rfl, rfl, rfl, rfl, rfl⟩⟩
  rw [processRequest_tr]
  split
  · refine hown.1.append ?_
    split
    · split
      · exact ⟨rfl, rfl, rfl, rfl, rfl⟩
      · exact paired_round r.market t _
    · exact ⟨rfl, rfl, rfl, rfl, rfl⟩
  · exact hown.2.append ⟨rfl, rfl, rfl, rfl, rfl⟩

theorem paired_of_glue {l : List Ev} (h : GlueTr l) : Paired l := by
  induction l with
  | nil => exact ⟨rfl, rfl, rfl, rfl, rfl⟩
  | cons e es ih =>
    refine Paired.append (a := [e]) (.single ?_) (ih fun x hx => h x (by simp [hx]))
    have he := h e (by simp)
    cases e <;> first | exact ⟨rfl, rfl, rfl, rfl, rfl⟩ | cases he

theorem paired_glue : Glue (fun (_ : State P) _ a => Paired a.out.tr) where
  emit _ _ _ _ := paired_of_glue
  seq := .append

theorem run_paired (po : Nat → PriceOps P) (ms : Markets) (price : Nat → P) (fund0 : Nat → Option P)
    (cfgs : List SessionCfg) (tapes : List (List (StepTape P))) : Paired (run po ms price fund0 cfgs tapes).out.tr :=
  paired_glue.run_of_frame (fun h => paired_of_glue h.tr) (fun _ t _ flag => paired_request t flag _) price fund0

def isOrderRec : Rec P → Bool | .order _ => true | _ => false
def isCancelRec : Rec P → Bool | .cancel _ => true | _ => false

def nOrders (l : List (MRec P)) : Nat := (l.filter (fun x => isOrderRec x.2)).length
def nCancels (l : List (MRec P)) : Nat := (l.filter (fun x => isCancelRec x.2)).length

theorem nOrders_append (a b : List (MRec P)) : nOrders (a ++ b) = nOrders a + nOrders b := by simp [nOrders]
theorem nCancels_append (a b : List (MRec P)) : nCancels (a ++ b) = nCancels a + nCancels b := by simp [nCancels]

/-- one order record per accepted submission, one cancel record per accepted cancellation -/
def SOut.Logged (a : SOut P) : Prop :=
  nOrders a.recs = (a.out.tr.flatMap cbSubmittedRef).length ∧
  nCancels a.recs = (a.out.tr.flatMap cbCanceledRef).length

theorem no_order_cancel {l : List (MRec P)} (h : ∀ x ∈ l, isOrderRec x.2 = false ∧ isCancelRec x.2 = false) :
    nOrders l = 0 ∧ nCancels l = 0 := by
  rw [nOrders, nCancels, List.length_eq_zero_iff, List.length_eq_zero_iff, List.filter_eq_nil_iff,
    List.filter_eq_nil_iff]
  exact ⟨fun x hx => by simp [(h x hx).1], fun x hx => by simp [(h x hx).2]⟩

theorem processRequest_notified (t : Nat) (flag : Bool) (r : Request) :
    (Runner.processRequest t flag r).tr.flatMap cbSubmittedRef = (if r.accepted && !r.isCancel then [r.ref] else []) ∧
    (Runner.processRequest t flag r).tr.flatMap cbCanceledRef = (if r.accepted && r.isCancel then [r.ref] else []) := by
  rw [processRequest_tr, ownEvents]
  cases r.isCancel <;> cases r.accepted <;> cases flag <;> (try cases r.fills) <;>
    simp [List.flatMap_cons, cbSubmittedRef, cbCanceledRef, fillEvents_flatMap]

theorem processRequest_logged (po : Nat → PriceOps P) (q : SReq P) (t : Nat) (s : State P) (flag : Bool) :
    (processRequest po t s flag q).Logged := by
  unfold processRequest SOut.Logged
  have hc := processRequest_notified t flag (resolve po s flag q).2.1
  simp only [hc.1, hc.2]
  rcases resolve_cases po s flag q with h | ⟨s1, r1, o1, hm, h⟩
  · rw [h]; exact ⟨rfl, rfl⟩
  · obtain ⟨m', o, r, -, -, rfl, -, hk⟩ := marketCall_cases hm
    have hr1 : nOrders [(q.market, r)] = (if !q.isCancel then [q.ref] else []).length ∧
        nCancels [(q.market, r)] = (if q.isCancel then [q.ref] else []).length := by
      rcases hk with ⟨hc, _, l, rfl⟩ | ⟨hc, _, l, rfl⟩ <;> simp [nOrders, nCancels, isOrderRec, isCancelRec, hc]
    rcases h with h | ⟨_, s2, rf, r2, o2, hr, h⟩ <;> rw [h]
    · simpa [baseRequest] using hr1
    · obtain ⟨m2, fs, -, -, -, rfl, -⟩ := roundCall_some hr
      have hf := no_order_cancel (l := fs.map (fun f => ((q.market, Rec.fill f) : MRec P)))
        (List.forall_mem_map.mpr (fun _ _ => ⟨rfl, rfl⟩))
      simp only [nOrders_append, nCancels_append, hf.1, hf.2, Nat.add_zero]
      simpa [baseRequest] using hr1

theorem logged_of_frame {s : State P} {a : SOut P} (h : a.Frame s) : a.Logged := by
  rw [SOut.Logged, flatMap_glue (fun _ he => (glue_no_refs he).2.2.1) h.tr,
    flatMap_glue (fun _ he => (glue_no_refs he).2.2.2) h.tr]
  exact no_order_cancel fun x hx => by
    obtain ⟨l, e⟩ := h.recs x hx
    rw [e]
    exact ⟨rfl, rfl⟩

theorem logged_glue : Glue (fun (_ : State P) _ a => a.Logged) where
  emit _ _ _ _ hl := logged_of_frame (emit_frame hl)
  seq := by
    rintro _ _ a b ⟨h1, h2⟩ ⟨g1, g2⟩
    simp only [SOut.Logged, nOrders_append, nCancels_append, List.flatMap_append, List.length_append]
    omega

theorem run_logged (po : Nat → PriceOps P) (ms : Markets) (price : Nat → P) (fund0 : Nat → Option P)
    (cfgs : List SessionCfg) (tapes : List (List (StepTape P))) : (run po ms price fund0 cfgs tapes).Logged :=
  logged_glue.run_of_frame logged_of_frame (processRequest_logged po) price fund0

end Pams.Sim
