/-
One matching round on a book of two buy orders `a`, `c` (in this priority) and one sell order `b`,
spelled out (`round21`), and the proof that the model's `Market.execution` is this.
-/
import PamsLemmas.SrcMarket21Defs
import PamsLemmas.SrcMarketModel

namespace Pams.Src
open Pams Pams.Py
variable {K : Type}

theorem pairPrice_vol (c b : Order K) (v : Nat) : pairPrice c { b with vol := v } = pairPrice c b := by
  simp [pairPrice]

variable [LinearOrder K]

theorem noCross_vol (c b : Order K) (v : Nat) : noCross c { b with vol := v } = noCross c b := by
  simp [noCross]

theorem walk21 (a c b : Order K) (h : noCross a b = false) :
    walk [a, c] [b] =
      if b.vol < a.vol then ([⟨b.vol, a, b⟩], [{ a with vol := a.vol - b.vol }, c], [])
      else if b.vol = a.vol then ([⟨a.vol, a, b⟩], [c], [])
      else
        let r := walk [c] [{ b with vol := b.vol - a.vol }]
        (⟨a.vol, a, b⟩ :: r.1, r.2.1, r.2.2) := by
  have hr : ∀ bs : List (Order K), walk bs [] = ([], bs, []) := fun bs => walk_stop (by simp)
  rw [walk]
  simp only [h, hr]
  rcases Nat.lt_trichotomy b.vol a.vol with hv | hv | hv
  · simp [hv, Nat.lt_asymm hv]
  · simp [hv]
  · simp [hv, Nat.lt_asymm hv, Nat.ne_of_gt hv]

variable [NumOpsC K]

/-- what `execObs21` shows of a round with fills `fs` (volume, buyer, price are in `fs`), residual
volumes, queues, and the mid-quote `mid` afterwards -/
def obs21 (m : Market K) (price : K) (fs : List (Nat × Order K)) (b : Order K) (va vc vb : Int)
    (qb qs : List (CObs K)) (mid : Option K) : CObs K :=
  let tv : Nat := (fs.map (·.1)).sum
  .tuple [ .tuple (fs.map (fun f => CObs.tuple [.num price, .int f.1, .int f.2.id, .int b.id, .int f.2.agent,
                                                  .int b.agent, .int m.time])),
           .int va, .int vc, .int vb, .tuple qb, .tuple qs, .tuple [.num price],
           .tuple [.int ((m.cur.execVol : Int) + tv)],
           .tuple [.num (fs.foldl (fun acc f => acc + PyNum.ofInt f.1 * price) m.cur.turnover)],
           .tuple [cOpt mid], .tuple [.num price] ]

/-- `a` is filled and `b`, with `b.vol - a.vol` left, still crosses `c`: two fills, **both at the price
`p2` of the second pair** -/
def twoFills21 (m : Market K) (a c b : Order K) (p2 : K) : CObs K :=
  let rest : Nat := b.vol - a.vol
  let v2 : Nat := min c.vol rest
  obs21 m p2 [(a.vol, a), (v2, c)] b 0 ((c.vol : Int) - v2) ((rest : Int) - v2)
    (if rest < c.vol then [.ref 3] else []) (if c.vol < rest then [.ref 2] else []) none

/-- `a` is filled and `b` has volume left: a single fill at `p1` if `b` does not cross `c` -/
def second21 (m : Market K) (a c b : Order K) (p1 : K) : CObs K :=
  if noCross c b then
    obs21 m p1 [(a.vol, a)] b 0 c.vol ((b.vol - a.vol : Nat) : Int) [.ref 3] [.ref 2] (midOf (srcOps K) [c] [b])
  else atPrice (pairPrice c b) (twoFills21 m a c b)

/-- `a` trades with `b` for the smaller volume, at `p1` unless a second fill follows -/
def first21 (m : Market K) (a c b : Order K) (p1 : K) : CObs K :=
  if b.vol < a.vol then obs21 m p1 [(b.vol, a)] b ((a.vol : Int) - b.vol) c.vol 0 [.ref 1, .ref 3] [] none
  else if b.vol = a.vol then obs21 m p1 [(a.vol, a)] b 0 c.vol 0 [.ref 3] [] none
  else second21 m a c b p1

/-- **one matching round on the book `[a, c]` / `[b]`, spelled out** (positive volumes, distinct ids, a
running market, no market order among `a`, `c`): nothing happens unless `a` and `b` cross; `a` trades
with `b` for the smaller volume; if that exhausts `a` and `b` still crosses `c`, `c` trades with what is
left of `b` — and then **both fills carry the price of the second pair** (`pairPrice c b`); otherwise the
single fill carries `pairPrice a b`. -/
def round21 (m : Market K) (a c b : Order K) : CObs K :=
  if remainExecutable [a, c] [b] = false then
    .tuple [.tuple [], .int a.vol, .int c.vol, .int b.vol, .tuple [.ref 1, .ref 3], .tuple [.ref 2],
            .tuple [cOpt m.cur.last], .tuple [.int m.cur.execVol], .tuple [.num m.cur.turnover],
            .tuple [cOpt m.cur.mid], .tuple [cOpt m.cur.market]]
  else atPrice (pairPrice a b) (first21 m a c b)

section
attribute [local simp] modelObs21 Market.settle Market.refresh midOf marketRule Book.bestPrice mkFill cFill volOf cOpt
  srcOps obs21 filledOf roundPrice

theorem model_round21 (m : Market K) (a c b : Order K) (pa pc : K)
    (hb : m.buys = [a, c]) (hs : m.sells = [b]) (hpa : a.price = some pa) (hpc : c.price = some pc)
    (hva : a.vol ≠ 0) (hvc : c.vol ≠ 0) (hvb : b.vol ≠ 0)
    (hab : a.id ≠ b.id) (hcb : c.id ≠ b.id) (hac : a.id ≠ c.id) (hr : m.running = true) :
    modelObs21 a c (Market.execution (srcOps K) m) = round21 m a c b := by
  unfold round21 Market.execution
  rw [hb, hs, remainExecutable_of_limit [c] [] (Or.inl (by simp [hpa]))]
  by_cases hc : noCross a b = true
  · simp [hc, hb, hs, hac, Ne.symm hac]
  · obtain ⟨p1, hp1⟩ := pairPrice_isSome a b (by simp [hpa])
    rw [walk21 a c b (by simpa using hc)]
    simp only [hc, hp1, atPrice, first21]
    rcases Nat.lt_trichotomy b.vol a.vol with h | h | h
    · simp [h, hva, hvc, hvb, hab, hcb, hac, Ne.symm hac, hp1, hr, remainExecutable]
      omega
    · simp [h, hva, hvc, hab, hcb, Ne.symm hac, hp1, hr, remainExecutable]
    · simp only [Nat.lt_asymm h, Nat.ne_of_gt h, if_false, second21]
      by_cases hcc : noCross c b = true
      · rw [walk_stop (by simpa [noCross_vol] using hcc)]
        simp [hcc, hva, hvc, hvb, hab, hcb, Ne.symm hac, hp1, hr, hpc, remainExecutable_of_limit (b := c) [] [] (Or.inl (by simp [hpc])),
          noCross_vol]
      · obtain ⟨p2, hp2⟩ := pairPrice_isSome c b (by simp [hpc])
        rw [walk11 c _ (by rw [noCross_vol]; simpa using hcc)]
        simp only [hcc, hp2, atPrice, twoFills21]
        rcases Nat.lt_trichotomy c.vol (b.vol - a.vol) with h1 | h1 | h1
        · have hmin : min c.vol (b.vol - a.vol) = c.vol := by omega
          simp [h1, hmin, Nat.lt_asymm h1, hva, hvc, hvb, hab, hcb, hp2, hr, pairPrice_vol, remainExecutable]
          omega
        · simp [h1, Nat.sub_ne_zero_of_lt h, hva, hvb, hab, hcb, hp2, hr, pairPrice_vol, remainExecutable]
        · have hmin : min c.vol (b.vol - a.vol) = b.vol - a.vol := by omega
          simp [h1, hmin, Nat.lt_asymm h1, hva, hvc, hvb, hab, hcb, Ne.symm hac, hp2, hr, pairPrice_vol,
            remainExecutable]
          omega
end

end Pams.Src
