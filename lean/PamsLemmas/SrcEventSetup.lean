/-
`setup` of the four built-in events as it stands in /repo (translated: `PamsGen.Code`): how the configured
values become the event's parameters — in particular that a shock's trigger time is counted from the start
of its own session — and which configurations are refused; by symbolic execution.

Setting: the event at address 3 (defaults: enabled, shock length 1), its session at 12 (start = int atom 80),
the simulator at 7 knowing the markets "m0" (address 5) and "m1" (address 6).  The settings hold
`triggerTime` = int atom 1, the rate = num atom 1, lengths / volumes = int atoms 2, 3, `enabled` = bool atom 1.
-/
import PamsLemmas.Agree
import PamsGen.Code
import PamsLemmas.SrcOrder

namespace Pams.Src
open Pams Pams.Py

variable {K : Type} [LinearOrder K] [NumOpsC K]

def setupEvent (cls : String) : String → Option Val
  | "__class__" => some (.str cls)
  | "session" => some (.ref 12)
  | "simulator" => some (.ref 7)
  | "is_enabled" => some (.bool (.lit true))
  | "shock_time_length" => some (.int (.lit 1))
  | "target_markets" => some (.dict [] [])
  | _ => none

def setupSt (cls : String) : St :=
  { heap := fun a => if a = 3 then setupEvent cls
      else if a = 12 then (fun f => match f with | "session_start_time" => some (.int (.atom 80)) | _ => none)
      else if a = 7 then (fun f => match f with
        | "name2market" => some (.dict [.str "m0", .str "m1"] [.ref 5, .ref 6]) | _ => none)
      else fun _ => none, calls := [] }

def setupEnv : Env := { prog := PamsGen.Code.prog, globals := globals, ext := fun _ _ _ _ => none, mro := PamsGen.Code.mroOf }

/-- the event's parameters afterwards -/
def setupObs : Except Py.Err (Val × St) → Obs
  | .ok (_, st) =>
    .tuple [Obs.ofOpt (st.heap 3 "trigger_time"), Obs.ofOpt (st.heap 3 "target_market"),
            (match st.heap 3 "target_markets" with
             | some (.dict ks vs) => .tuple [.tuple (ks.map Obs.ofVal), .tuple (vs.map Obs.ofVal)] | _ => .absent),
            Obs.ofOpt (st.heap 3 "price_change_rate"), Obs.ofOpt (st.heap 3 "trigger_change_rate"),
            Obs.ofOpt (st.heap 3 "shock_time_length"), Obs.ofOpt (st.heap 3 "halting_time_length"),
            Obs.ofOpt (st.heap 3 "order_volume"), Obs.ofOpt (st.heap 3 "order_time_length"),
            Obs.ofOpt (st.heap 3 "is_enabled")]
  | .error e => .err e

def rhoSetup (start trig len vol : Int) (rate : K) (enabled : Bool) : Rho K :=
  { i := fun k => if k = 80 then start else if k = 1 then trig else if k = 2 then len else vol
    n := fun _ => rate, b := fun _ => enabled }

def dictOfPairs (l : List (String × Val)) : Val := .dict (l.map (fun kv => .str kv.1)) (l.map (·.2))

def fpsFull : Val := dictOfPairs [("target", .str "m1"), ("triggerTime", .int (.atom 1)), ("priceChangeRate", .num (.atom 1)),
  ("shockTimeLength", .int (.atom 2)), ("enabled", .bool (.atom 1))]
def fpsMin : Val := dictOfPairs [("target", .str "m0"), ("triggerTime", .int (.atom 1)), ("priceChangeRate", .num (.atom 1))]
def fpsDays : Val := dictOfPairs [("target", .str "m0"), ("triggerDays", .int (.lit 1)), ("triggerTime", .int (.atom 1)),
  ("priceChangeRate", .num (.atom 1))]
def fpsFloatTime : Val := dictOfPairs [("target", .str "m0"), ("triggerTime", .num (.atom 1)), ("priceChangeRate", .num (.atom 1))]
def omsFull : Val := dictOfPairs [("target", .str "m1"), ("triggerTime", .int (.atom 1)), ("priceChangeRate", .num (.atom 1)),
  ("orderVolume", .int (.atom 3)), ("orderTimeLength", .int (.atom 2)), ("enabled", .bool (.atom 1))]
def omsUnknown : Val := dictOfPairs [("target", .str "zz"), ("triggerTime", .int (.atom 1)), ("priceChangeRate", .num (.atom 1)),
  ("orderVolume", .int (.atom 3)), ("orderTimeLength", .int (.atom 2))]
def thrFull : Val := dictOfPairs [("targetMarkets", .list [.str "m1", .str "m0"]), ("triggerChangeRate", .num (.atom 1)),
  ("haltingTimeLength", .int (.atom 2)), ("enabled", .bool (.atom 1))]
def thrIntRate : Val := dictOfPairs [("targetMarkets", .list [.str "m0"]), ("triggerChangeRate", .int (.lit 1)),
  ("haltingTimeLength", .int (.atom 2))]
def plrFull : Val := dictOfPairs [("targetMarkets", .list [.str "m0"]), ("triggerChangeRate", .num (.atom 1))]
def plrUnknown : Val := dictOfPairs [("targetMarkets", .list [.str "m0", .str "zz"]), ("triggerChangeRate", .num (.atom 1))]

/-- a shock after `setup`, as `setupObs` shows it: trigger time = session start (int atom 80) + `triggerTime`
(int atom 1), the target market, the rate (num atom 1) -/
def shockO (target : Nat) (len : ITerm) (vol olen : Obs) (enabled : BTerm) : Obs :=
  .tuple [.int (.add (.atom 80) (.atom 1)), .ref target, .tuple [.tuple [], .tuple []], .num (.atom 1), .absent, .int len,
          .absent, vol, olen, .bool enabled]

/-- a rule after `setup`: the target table, the rate (num atom 1) -/
def ruleO (names : List String) (markets : List Nat) (halt : Obs) (enabled : BTerm) : Obs :=
  .tuple [.absent, .absent, .tuple [.tuple (names.map .str), .tuple (markets.map .ref)], .absent, .num (.atom 1),
          .int (.lit 1), halt, .absent, .absent, .bool enabled]

def refusedO : Obs := .err (.raise "ValueError")

/-- event class, settings, what `setup` leaves behind -/
def setups : List (String × Val × Obs) :=
  [("FundamentalPriceShock", fpsFull, shockO 6 (.atom 2) .absent .absent (.atom 1)),
   ("FundamentalPriceShock", fpsMin, shockO 5 (.lit 1) .absent .absent (.lit true)),
   ("OrderMistakeShock", omsFull, shockO 6 (.lit 1) (.int (.atom 3)) (.int (.atom 2)) (.atom 1)),
   ("TradingHaltRule", thrFull, ruleO ["m1", "m0"] [6, 5] (.int (.atom 2)) (.atom 1)),
   ("PriceLimitRule", plrFull, ruleO ["m0"] [5] .absent (.lit true)),
   ("FundamentalPriceShock", fpsDays, refusedO), ("FundamentalPriceShock", fpsFloatTime, refusedO),
   ("OrderMistakeShock", omsUnknown, refusedO), ("TradingHaltRule", thrIntRate, refusedO),
   ("PriceLimitRule", plrUnknown, refusedO)]

theorem event_setup_agree : ∀ s ∈ setups, agreesP setupObs setupEnv FUEL (s.1 ++ ".setup") [.ref 3, s.2.1] (setupSt s.1)
    (Tree.leaf s.2.2) = true := by
  decide +kernel

theorem setup_src (s : String × Val × Obs) (hs : s ∈ setups) (ρ : Rho K) :
    resultG setupObs ρ setupEnv FUEL (s.1 ++ ".setup") [.ref 3, s.2.1] (setupSt s.1) = s.2.2.eval ρ :=
  resultG_eq_of_agreeP ρ (event_setup_agree s hs)

/-- **the shocks' trigger time is counted from the start of their own session**: `trigger_time = session start +
triggerTime`; the target is the market of that name; the optional length and switch are taken when given, the
defaults (length 1, enabled) kept otherwise -/
theorem setup_src_shocks (start trig len vol : Int) (rate : K) (enabled : Bool) :
    resultG setupObs (rhoSetup start trig len vol rate enabled) setupEnv FUEL "FundamentalPriceShock.setup" [.ref 3, fpsFull]
        (setupSt "FundamentalPriceShock")
      = .tuple [.int (start + trig), .ref 6, .tuple [.tuple [], .tuple []], .num rate, .absent, .int len, .absent, .absent,
                .absent, .bool enabled] ∧
    resultG setupObs (rhoSetup start trig len vol rate enabled) setupEnv FUEL "FundamentalPriceShock.setup" [.ref 3, fpsMin]
        (setupSt "FundamentalPriceShock")
      = .tuple [.int (start + trig), .ref 5, .tuple [.tuple [], .tuple []], .num rate, .absent, .int 1, .absent, .absent,
                .absent, .bool true] ∧
    resultG setupObs (rhoSetup start trig len vol rate enabled) setupEnv FUEL "OrderMistakeShock.setup" [.ref 3, omsFull]
        (setupSt "OrderMistakeShock")
      = .tuple [.int (start + trig), .ref 6, .tuple [.tuple [], .tuple []], .num rate, .absent, .int 1, .absent, .int vol,
                .int len, .bool enabled] :=
  ⟨setup_src ("FundamentalPriceShock", fpsFull, shockO 6 (.atom 2) .absent .absent (.atom 1)) (by simp [setups]) _,
   setup_src ("FundamentalPriceShock", fpsMin, shockO 5 (.lit 1) .absent .absent (.lit true)) (by simp [setups]) _,
   setup_src ("OrderMistakeShock", omsFull, shockO 6 (.lit 1) (.int (.atom 3)) (.int (.atom 2)) (.atom 1)) (by simp [setups]) _⟩

/-- the rules: the target table holds the named markets in the order listed, rate and halting length as
configured -/
theorem setup_src_rules (start trig len vol : Int) (rate : K) (enabled : Bool) :
    resultG setupObs (rhoSetup start trig len vol rate enabled) setupEnv FUEL "TradingHaltRule.setup" [.ref 3, thrFull]
        (setupSt "TradingHaltRule")
      = .tuple [.absent, .absent, .tuple [.tuple [.str "m1", .str "m0"], .tuple [.ref 6, .ref 5]], .absent, .num rate, .int 1,
                .int len, .absent, .absent, .bool enabled] ∧
    resultG setupObs (rhoSetup start trig len vol rate enabled) setupEnv FUEL "PriceLimitRule.setup" [.ref 3, plrFull]
        (setupSt "PriceLimitRule")
      = .tuple [.absent, .absent, .tuple [.tuple [.str "m0"], .tuple [.ref 5]], .absent, .num rate, .int 1, .absent, .absent,
                .absent, .bool true] :=
  ⟨setup_src ("TradingHaltRule", thrFull, ruleO ["m1", "m0"] [6, 5] (.int (.atom 2)) (.atom 1)) (by simp [setups]) _,
   setup_src ("PriceLimitRule", plrFull, ruleO ["m0"] [5] .absent (.lit true)) (by simp [setups]) _⟩

/-- refused configurations: the obsolete `triggerDays`, a trigger time that is not an int, an unknown target
market, an int where the rate must be a float -/
theorem setup_src_refusals (start trig len vol : Int) (rate : K) (enabled : Bool) :
    resultG setupObs (rhoSetup start trig len vol rate enabled) setupEnv FUEL "FundamentalPriceShock.setup" [.ref 3, fpsDays]
        (setupSt "FundamentalPriceShock") = .err (.raise "ValueError") ∧
    resultG setupObs (rhoSetup start trig len vol rate enabled) setupEnv FUEL "FundamentalPriceShock.setup" [.ref 3, fpsFloatTime]
        (setupSt "FundamentalPriceShock") = .err (.raise "ValueError") ∧
    resultG setupObs (rhoSetup start trig len vol rate enabled) setupEnv FUEL "OrderMistakeShock.setup" [.ref 3, omsUnknown]
        (setupSt "OrderMistakeShock") = .err (.raise "ValueError") ∧
    resultG setupObs (rhoSetup start trig len vol rate enabled) setupEnv FUEL "TradingHaltRule.setup" [.ref 3, thrIntRate]
        (setupSt "TradingHaltRule") = .err (.raise "ValueError") ∧
    resultG setupObs (rhoSetup start trig len vol rate enabled) setupEnv FUEL "PriceLimitRule.setup" [.ref 3, plrUnknown]
        (setupSt "PriceLimitRule") = .err (.raise "ValueError") :=
  ⟨setup_src ("FundamentalPriceShock", fpsDays, refusedO) (by simp [setups]) _,
   setup_src ("FundamentalPriceShock", fpsFloatTime, refusedO) (by simp [setups]) _,
   setup_src ("OrderMistakeShock", omsUnknown, refusedO) (by simp [setups]) _,
   setup_src ("TradingHaltRule", thrIntRate, refusedO) (by simp [setups]) _,
   setup_src ("PriceLimitRule", plrUnknown, refusedO) (by simp [setups]) _⟩

end Pams.Src
