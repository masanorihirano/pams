import PamsModel.Order

namespace Pams
variable {P : Type} [LinearOrder P]

/-- the documented ranking, spelled out: market before limit; better price; earlier acceptance;
lower id -/
def ranksBefore (a b : Order P) : Prop :=
  match a.price, b.price with
  | none, some _ => True
  | some _, none => False
  | none, none => a.placedAt < b.placedAt ∨ (a.placedAt = b.placedAt ∧ a.id < b.id)
  | some pa, some pb =>
    (if a.isBuy then pb < pa else pa < pb) ∨
      (pa = pb ∧ (a.placedAt < b.placedAt ∨ (a.placedAt = b.placedAt ∧ a.id < b.id)))

theorem lt_iff_ranksBefore (a b : Order P) : a.lt b = true ↔ ranksBefore a b := by
  unfold Order.lt gtLt ranksBefore cmpPlaced
  rcases ha : a.price with _ | pa <;> rcases hb : b.price with _ | pb <;> simp
  · by_cases h : a.placedAt = b.placedAt <;> simp [h]
  · by_cases h : pa = pb
    · subst h
      by_cases h2 : a.placedAt = b.placedAt <;> simp [h2] <;>
        (intro hh; exact absurd hh (lt_irrefl _))
    · cases hbuy : a.isBuy <;> simp [h]

/- `ranksBefore` is lexicographic: market before limit, then price, then acceptance time, then id.  The order
facts below (`gt_eq_lt_swap`, `olt_trans`, `olt_total`) split on the two prices and leave what remains of that
lexicographic order on the stamps to `grind` / `omega`. -/
theorem gt_eq_lt_swap (a b : Order P) (hs : a.isBuy = b.isBuy) : a.gt b = b.lt a := by
  unfold Order.gt Order.lt gtLt cmpPlaced
  rw [← hs]
  rcases a.price with _ | pa <;> rcases b.price with _ | pb <;> simp <;> grind

theorem olt_irrefl (a : Order P) : a.lt a = false := by
  unfold Order.lt gtLt cmpPlaced
  rcases ha : a.price with _ | pa <;> simp

theorem olt_trans (a b c : Order P) (h1 : a.isBuy = b.isBuy)
    (hab : a.lt b = true) (hbc : b.lt c = true) : a.lt c = true := by
  rw [lt_iff_ranksBefore] at *
  unfold ranksBefore at *
  rcases ha : a.price with _ | pa <;> rcases hb : b.price with _ | pb <;>
    rcases hc : c.price with _ | pc <;> simp [ha, hb, hc] at hab hbc ⊢
  · omega
  · rw [← h1] at hbc
    cases hbuy : a.isBuy <;> simp [hbuy] at hab hbc ⊢ <;> grind

theorem olt_asymm (a b : Order P) (hs : a.isBuy = b.isBuy) (h : a.lt b = true) :
    b.lt a = false := by
  cases hba : b.lt a
  · rfl
  · exact absurd (olt_trans a b a hs h hba) (by simp [olt_irrefl])

theorem olt_total (a b : Order P) (hs : a.isBuy = b.isBuy) (hid : a.id ≠ b.id) :
    a.lt b = true ∨ b.lt a = true := by
  rw [lt_iff_ranksBefore, lt_iff_ranksBefore]
  unfold ranksBefore
  rcases ha : a.price with _ | pa <;> rcases hb : b.price with _ | pb <;> simp
  · omega
  · rw [← hs]
    cases hbuy : a.isBuy <;> simp <;> grind

theorem eqv_refl (a : Order P) : a.eqv a = true := by simp [Order.eqv]

theorem eqv_imp_id (a b : Order P) (h : a.eqv b = true) : a.id = b.id := by
  simp [Order.eqv] at h; exact h.1.1.1

/-- priority does not depend on the (remaining) volume -/
theorem lt_vol_irrel_left (a b : Order P) (v : Nat) : ({ a with vol := v } : Order P).lt b = a.lt b := rfl
theorem lt_vol_irrel_right (a b : Order P) (v : Nat) : a.lt ({ b with vol := v } : Order P) = a.lt b := rfl

omit [LinearOrder P] in
theorem expired_iff (o : Order P) (time : Nat) :
    o.expired time = true ↔ ∃ t, o.ttl = some t ∧ o.placedAt + t < time := by
  unfold Order.expired
  cases o.ttl <;> simp

omit [LinearOrder P] in
theorem not_expired_iff (o : Order P) (time : Nat) :
    o.expired time = false ↔ ∀ t, o.ttl = some t → time ≤ o.placedAt + t := by
  unfold Order.expired
  cases o.ttl <;> simp

end Pams
