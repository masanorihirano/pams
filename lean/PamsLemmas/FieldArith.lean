/-
The arithmetic signature `Arith` (PamsModel/Arith.lean) read at an ordered field: the instance the
pure numeric models (clip, index, halt test, uniform draw) are proved at.
-/
import PamsModel.Arith
import Mathlib.Algebra.Order.Field.Basic

namespace Pams.C15
open Pams

variable {K : Type} [Field K] [LinearOrder K] [IsStrictOrderedRing K]

instance fieldArith : Arith K where
  zero := 0
  one := 1
  ofNat := fun n => (n : K)
  decLt := fun a b => inferInstance
  decLe := fun a b => inferInstance

@[simp] theorem arith_zero : (Arith.zero : K) = 0 := rfl
@[simp] theorem arith_one : (Arith.one : K) = 1 := rfl
@[simp] theorem arith_ofNat (n : Nat) : (Arith.ofNat n : K) = (n : K) := rfl

end Pams.C15
