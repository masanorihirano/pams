/-
The regeneration bookkeeping of `pams/fundamentals.py` as it stands in /repo (translated:
`PamsGen.Code`) — `get_fundamental_price`, `_generate_until` and the setter `change_volatility` — against the model
`Pams.FundS`, step by step along the history on which defect F8 showed (two setter calls in a row,
dated 50 and 120, between two reads up to 200; chunk size 100).

`_generate_next` (NumPy) is an oracle here that does what the model's `gen` does: it keeps the steps up to
`_generated_until`, appends one chunk generated with the parameters *current at the call* — recorded in the
ghost field `prov` — and advances `_generated_until` by the chunk size.  A model state is written out as
the object at address 3 (`fundSt`); parameter set `v` is the volatility num atom `10 + v`.
-/
import PamsLemmas.Agree
import PamsGen.Code
import PamsModel.FundSched
import PamsLemmas.SrcOrder

namespace Pams.Src
open Pams Pams.Py Pams.FundS

variable {K : Type} [LinearOrder K] [NumOpsC K]

def volVal (v : Nat) : Val := .num (.atom (10 + v))

def fundObj (s : St Nat) : String → Option Val
  | "__class__" => some (.str "Fundamentals")
  | "_generated_until" => some (.int (.lit s.g))
  | "_generate_chunk_size" => some (.int (.lit s.chunk))
  | "volatilities" => some (.dict [.int (.lit 0)] [volVal s.cur])
  | "drifts" => some (.dict [.int (.lit 0)] [.num (.atom 5)])
  | "correlation" => some (.dict [] [])
  | "prov" => some (.list (s.prov.map volVal))
  | "prices" => some (.dict [.int (.lit 0)] [.list (s.prov.map (fun _ => .num (.atom 99)))])
  | _ => none

def fundSt (s : St Nat) : St := { heap := fun a => if a = 3 then fundObj s else fun _ => none, calls := [] }

/-- the oracle for `_generate_next`: the model's `gen` on the written-out state -/
def fundExt : Ext := fun st recv fn args =>
  match recv, fn, args with
  | .ref 3, "_generate_next", [] =>
    match st.heap 3 "_generated_until", st.heap 3 "_generate_chunk_size", st.heap 3 "prov", st.heap 3 "volatilities",
          st.heap 3 "prices" with
    | some (.int (.lit g)), some (.int (.lit c)), some (.list prov), some (.dict _ [cur]), some (.dict ks [.list ps]) =>
      let st := st.set 3 "prov" (.list (prov.take (g.toNat + 1) ++ List.replicate c.toNat cur))
      let st := st.set 3 "prices" (.dict ks [.list (ps.take (g.toNat + 1) ++ List.replicate c.toNat (.num (.atom 99)))])
      some (.none, st.set 3 "_generated_until" (.int (.lit (g + c))))
    | _, _, _, _, _ => none
  | _, _, _ => none

def fundEnv : Env :=
  { prog := PamsGen.Code.prog, globals := globals, ext := fundExt }

/-- the state afterwards: regeneration point, current volatility, and the ghost record of every step -/
def fundObs : Except Py.Err (Val × St) → Obs
  | .ok (_, st) =>
    .tuple [Obs.ofOpt (st.heap 3 "_generated_until"),
            (match st.heap 3 "volatilities" with | some (.dict _ [v]) => Obs.ofVal v | _ => .absent),
            (match st.heap 3 "prov" with | some (.list l) => .tuple (l.map Obs.ofVal) | _ => .absent),
            .int (.lit (st.calls.filter (fun c => c.fn == "_generate_next")).length)]
  | .error e => .err e

/-- a model state as observed (with the number of generation rounds the step took) -/
def stateObs (ρ : Rho K) (s : St Nat) (rounds : Nat) : CObs K :=
  .tuple [.int s.g, .num (ρ.n (10 + s.cur)), .tuple (s.prov.map (fun v => .num (ρ.n (10 + v)))), .int rounds]

/-- the history: chunk 100, read up to 200, volatility := set 1 from 50, := set 2 from 120, read up to 200 -/
def f0 : St Nat := init 0 100
def f1 : St Nat := f0.read 200
def f2 : St Nat := f1.change 50 (fun _ => 1)
def f3 : St Nat := f2.change 120 (fun _ => 2)
def f4 : St Nat := f3.read 200

def stateO (s : St Nat) (rounds : Nat) : Obs :=
  .tuple [.int (.lit s.g), .num (.atom (10 + s.cur)), .tuple (s.prov.map fun v => .num (.atom (10 + v))),
          .int (.lit rounds)]

theorem stateO_eval (ρ : Rho K) (s : St Nat) (rounds : Nat) : (stateO s rounds).eval ρ = stateObs ρ s rounds := by
  simp only [stateO, stateObs, Obs.eval, Obs.evalList, Obs.evalList_map, ITerm.eval, NTerm.eval]

/-- a step that ends in state `s` after `rounds` rounds; a setter first refuses a negative volatility
(`some k`: the num atom `k` holds the new value) -/
def stepT (s : St Nat) (rounds : Nat) : Option Nat → Tree Obs
  | none => .leaf (stateO s rounds)
  | some k => .node (.nlt (.atom k) (.ofInt (.lit 0))) (fun _ => .raiseT "ValueError")
      (fun _ => .leaf (stateO s rounds))

theorem stepT_denote (ρ : Rho K) (s : St Nat) (rounds : Nat) (check : Option Nat)
    (hv : ∀ k ∈ check, ¬ ρ.n k < PyNum.ofInt 0) : ((stepT s rounds check).denote ρ).eval ρ = stateObs ρ s rounds := by
  cases check with
  | none => exact stateO_eval ρ s rounds
  | some k =>
    have h : ¬ ρ.n k < NumOpsC.ofInt 0 := hv k rfl
    simp [stepT, py_eval, h, stateO_eval]

/-- a call of the history: method and arguments, the state before, the volatility atom a setter checks, the
state after, the generation rounds taken -/
structure FundStep where
  fn : String
  args : List Val
  before : St Nat
  check : Option Nat
  after : St Nat
  rounds : Nat

/-- a read up to 200 -/
abbrev readStep (s s' : St Nat) (rounds : Nat) : FundStep :=
  ⟨"get_fundamental_price", [.int (.lit 0), .int (.lit 200)], s, none, s', rounds⟩

/-- volatility := set `v` from time `t` -/
abbrev changeStep (v : Nat) (t : Int) (s s' : St Nat) (rounds : Nat) : FundStep :=
  ⟨"change_volatility", [.int (.lit 0), volVal v, .int (.lit t)], s, some (10 + v), s', rounds⟩

def fundSteps : List FundStep :=
  [readStep f0 f1 3, changeStep 1 50 f1 f2 0, changeStep 2 120 f2 f3 1, readStep f3 f4 1]

theorem fund_agree : ∀ c ∈ fundSteps,
    agreesP fundObs fundEnv 2000 ("Fundamentals." ++ c.fn) (.ref 3 :: c.args) (fundSt c.before)
      (stepT c.after c.rounds c.check) = true := by
  decide +kernel

/-- every step of the history leaves the bookkeeping in the model's next state -/
theorem fund_src (ρ : Rho K) : ∀ c ∈ fundSteps, (∀ k ∈ c.check, ¬ ρ.n k < PyNum.ofInt 0) →
    resultG fundObs ρ fundEnv 2000 ("Fundamentals." ++ c.fn) (.ref 3 :: c.args) (fundSt c.before)
      = stateObs ρ c.after c.rounds := by
  intro c hc hv
  rw [resultG_eq_of_agreeP _ (fund_agree c hc), stepT_denote ρ _ _ _ hv]

/-- **reading up to 200 from the initial state** generates three chunks with the initial parameters -/
theorem fund_src_read_initial (ρ : Rho K) :
    resultG fundObs ρ fundEnv 2000 "Fundamentals.get_fundamental_price" [.ref 3, .int (.lit 0), .int (.lit 200)] (fundSt f0)
      = stateObs ρ f1 3 :=
  fund_src ρ (readStep f0 f1 3) (by simp [fundSteps]) (by simp)

/-- **a setter dated before the regeneration point** (volatility := set 1 from time 50, everything up to 300
generated): nothing is generated, the new set is installed, the regeneration point moves back to 50 -/
theorem fund_src_change_back (ρ : Rho K) (hv : ¬ ρ.n 11 < PyNum.ofInt 0) :
    resultG fundObs ρ fundEnv 2000 "Fundamentals.change_volatility" [.ref 3, .int (.lit 0), volVal 1, .int (.lit 50)] (fundSt f1)
      = stateObs ρ f2 0 :=
  fund_src ρ (changeStep 1 50 f1 f2 0) (by simp [fundSteps]) (by simpa using hv)

/-- **a second setter dated after the regeneration point** (volatility := set 2 from time 120, regeneration
point 50): the steps 51 … 120 are first generated *with set 1* (one round of `_generate_until`, the repair of
defect F8), then set 2 is installed and the regeneration point set to 120 -/
theorem fund_src_change_settles_first (ρ : Rho K) (hv : ¬ ρ.n 12 < PyNum.ofInt 0) :
    resultG fundObs ρ fundEnv 2000 "Fundamentals.change_volatility" [.ref 3, .int (.lit 0), volVal 2, .int (.lit 120)] (fundSt f2)
      = stateObs ρ f3 1 :=
  fund_src ρ (changeStep 2 120 f2 f3 1) (by simp [fundSteps]) (by simpa using hv)

/-- **the next read** regenerates from 120 with set 2: steps 1 … 50 keep the initial set, 51 … 120 set 1,
121 … carry set 2 -/
theorem fund_src_read_after (ρ : Rho K) :
    resultG fundObs ρ fundEnv 2000 "Fundamentals.get_fundamental_price" [.ref 3, .int (.lit 0), .int (.lit 200)] (fundSt f3)
      = stateObs ρ f4 1 :=
  fund_src ρ (readStep f3 f4 1) (by simp [fundSteps]) (by simp)

/-- what the final record says: step 50 initial set, step 100 set 1, step 120 set 1, step 121 set 2 -/
theorem fund_history_record : f4.prov[50]? = some 0 ∧ f4.prov[100]? = some 1 ∧ f4.prov[120]? = some 1 ∧
    f4.prov[121]? = some 2 ∧ f4.g = 220 := by decide +kernel

end Pams.Src
