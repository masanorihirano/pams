/-
`hook_registration` of the four built-in events and `EventHook.__init__` as they stand in /repo
(translated: `PamsGen.Code`): which hooks each event asks the simulator to register — by symbolic execution,
compared with `Hooks.Hook` records (`Events.fshockHook` for the fundamental price shock).

Setting: the event at address 3 (enabled = bool atom 1, trigger time = int atom 1), plain markets at 5 and 6
(ids 0 and 1).  Observed: the returned hooks, field by field.
-/
import PamsLemmas.SrcSimulator
import PamsModel.Events

namespace Pams.Src
open Pams Pams.Py Pams.Hooks

variable {K : Type} [LinearOrder K] [NumOpsC K]

def regEvent (cls : String) (len : Nat) : String → Option Val
  | "__class__" => some (.str cls)
  | "is_enabled" => some (.bool (.atom 1))
  | "trigger_time" => some (.int (.atom 1))
  | "shock_time_length" => some (.int (.lit len))
  | "target_market" => some (.ref 5)
  | "target_markets" => some (.dict [.str "m0", .str "m1"] [.ref 5, .ref 6])
  | _ => none

def regHeap (cls : String) (len : Nat) : Nat → String → Option Val :=
  fun addr => if addr = 3 then regEvent cls len else if addr = 5 then mktS 0
    else if addr = 6 then (fun f => match f with
      | "__class__" => some (.str "Market") | "market_id" => some (.int (.lit 1)) | _ => none)
    else fun _ => none

def regSt (cls : String) (len : Nat) : St := { heap := regHeap cls len, calls := [] }

def regGlobals : String → Option Val := fun x =>
  if x = "Market" then some (.str "Market") else if x = "EventHook" then some (.str "EventHook") else globals x

def regEnv : Env :=
  { prog := PamsGen.Code.prog, globals := regGlobals, ext := fun _ _ _ _ => none, mro := PamsGen.Code.mroOf }

def hookObs (st : St) : Val → Obs
  | .ref a => .tuple [Obs.ofOpt (st.heap a "event"), Obs.ofOpt (st.heap a "hook_type"), Obs.ofOpt (st.heap a "is_before"),
                      (match st.heap a "time" with | some v => valObs v | none => .absent),
                      Obs.ofOpt (st.heap a "specific_class"), Obs.ofOpt (st.heap a "specific_instance")]
  | _ => .other

def hooksObs : Except Py.Err (Val × St) → Obs
  | .ok (.list l, st) => .tuple (l.map (hookObs st))
  | .ok _ => .other
  | .error e => .err e

/-- a model hook as observed (the event lives at address 3, market `i` at `5 + i`) -/
def hookC (h : Hook) : CObs K :=
  .tuple [.ref 3, .str (hookType h.kind).1, .bool (hookType h.kind).2,
          (match h.times with | none => .none | some ts => .tuple (ts.map CObs.int)),
          (match h.cls with | none => .none | some .market => .str "Market" | some .index => .str "IndexMarket"),
          (match h.inst with | none => .none | some i => .ref (5 + i))]

def rhoReg (enabled : Bool) (trigger : Int) : Rho K :=
  { i := fun _ => trigger, n := fun _ => PyNum.ofInt 0, b := fun _ => enabled }

section
variable (enabled : Bool) (trigger : Int) (k : Nat)
@[py_eval] theorem rhoReg_i : (rhoReg (K := K) enabled trigger).i k = trigger := rfl
@[py_eval] theorem rhoReg_b : (rhoReg (K := K) enabled trigger).b k = enabled := rfl
end

/-- `hookC` over terms (none of the four events asks for a class) -/
def hookO (kind : Kind) (times : Option (List ITerm)) (inst : Option Nat) : Obs :=
  .tuple [.ref 3, .str (hookType kind).1, .bool (.lit (hookType kind).2),
          (match times with | none => .none | some ts => .tuple (ts.map Obs.int)), .none,
          (match inst with | none => .none | some i => .ref (5 + i))]

/-- the shock's hook: the times `trigger_time + i` for `i` below its length -/
def fshockO (len : Nat) : Obs :=
  hookO .marketBefore (some ((List.range len).map (fun i : Nat => .add (.atom 1) (.lit i)))) (some 0)

theorem fshockO_eval (enabled : Bool) (trigger len : Nat) :
    (fshockO len).eval (rhoReg (K := K) enabled trigger) = hookC (Events.fshockHook 0 0 0 trigger len 0) := by
  simp [fshockO, hookO, hookC, hookType, Events.fshockHook, py_eval, Obs.evalList_eq_map]

/-- the registration as a tree: the hooks if the event is enabled (bool atom 1), else none -/
def enabledT (hooks : List Obs) : Tree Obs :=
  .node (.atom 1) (fun _ => .leaf (.tuple hooks)) (fun _ => .leaf (.tuple []))

theorem enabledT_denote (enabled : Bool) (trigger : Int) (hooks : List Obs) :
    ((enabledT hooks).denote (rhoReg (K := K) enabled trigger)).eval (rhoReg (K := K) enabled trigger)
      = .tuple (if enabled then hooks.map (Obs.eval (rhoReg (K := K) enabled trigger)) else []) := by
  cases enabled <;> simp [enabledT, py_eval, Obs.evalList_eq_map]

/-- event class, shock length, the hooks the model expects -/
def registrations : List (String × Nat × List Obs) :=
  [0, 1, 3].map (fun len => ("FundamentalPriceShock", len, [fshockO len])) ++
  [("OrderMistakeShock", 0, [hookO .orderBefore (some [.atom 1]) none]),
   ("PriceLimitRule", 0, [hookO .orderBefore none none]),
   ("TradingHaltRule", 0, [hookO .executionAfter none none, hookO .marketBefore none (some 0), hookO .marketBefore none (some 1)])]

theorem reg_agree : ∀ r ∈ registrations, agreesP hooksObs regEnv FUEL (r.1 ++ ".hook_registration") [.ref 3]
    (regSt r.1 r.2.1) (enabledT r.2.2) = true := by
  decide +kernel

theorem hookreg_src (r : String × Nat × List Obs) (hr : r ∈ registrations) (enabled : Bool) (trigger : Int) :
    resultG hooksObs (rhoReg (K := K) enabled trigger) regEnv FUEL (r.1 ++ ".hook_registration") [.ref 3] (regSt r.1 r.2.1)
      = .tuple (if enabled then r.2.2.map (Obs.eval (rhoReg (K := K) enabled trigger)) else []) :=
  (resultG_eq_of_agreeP _ (reg_agree r hr)).trans (enabledT_denote enabled trigger r.2.2)

theorem hookreg_src_fshock_len (len : Nat) (hl : len ∈ [0, 1, 3]) (enabled : Bool) (trigger : Nat) :
    resultG hooksObs (rhoReg (K := K) enabled trigger) regEnv FUEL "FundamentalPriceShock.hook_registration" [.ref 3]
        (regSt "FundamentalPriceShock" len)
      = .tuple (if enabled then [hookC (Events.fshockHook 0 0 0 trigger len 0)] else []) :=
  (hookreg_src (_, len, [fshockO len]) (List.mem_append_left _ (List.mem_map.2 ⟨len, hl, rfl⟩)) enabled trigger).trans
    (by rw [List.map_singleton, fshockO_eval])

/-- **the fundamental price shock registers `Events.fshockHook`**: one before-step hook bound to its target
market instance for exactly the times `trigger … trigger + length − 1` (none for length 0: registered, never
dispatched); nothing when disabled -/
theorem hookreg_src_fshock (enabled : Bool) (trigger : Nat) :
    resultG hooksObs (rhoReg (K := K) enabled trigger) regEnv FUEL "FundamentalPriceShock.hook_registration" [.ref 3] (regSt "FundamentalPriceShock" 0)
      = .tuple (if enabled then [hookC (Events.fshockHook 0 0 0 trigger 0 0)] else []) ∧
    resultG hooksObs (rhoReg (K := K) enabled trigger) regEnv FUEL "FundamentalPriceShock.hook_registration" [.ref 3] (regSt "FundamentalPriceShock" 1)
      = .tuple (if enabled then [hookC (Events.fshockHook 0 0 0 trigger 1 0)] else []) ∧
    resultG hooksObs (rhoReg (K := K) enabled trigger) regEnv FUEL "FundamentalPriceShock.hook_registration" [.ref 3] (regSt "FundamentalPriceShock" 3)
      = .tuple (if enabled then [hookC (Events.fshockHook 0 0 0 trigger 3 0)] else []) :=
  ⟨hookreg_src_fshock_len 0 (by simp) enabled trigger, hookreg_src_fshock_len 1 (by simp) enabled trigger,
    hookreg_src_fshock_len 3 (by simp) enabled trigger⟩

/-- the order mistake shock: one before-order hook for its trigger time; the price limit rule: one
before-order hook for every time; the trading halt rule: one after-execution hook for every time and one
before-step hook per target market instance, in the order of its target table -/
theorem hookreg_src_others (enabled : Bool) (trigger : Int) :
    resultG hooksObs (rhoReg (K := K) enabled trigger) regEnv FUEL "OrderMistakeShock.hook_registration" [.ref 3] (regSt "OrderMistakeShock" 0)
      = .tuple (if enabled then [hookC { id := 0, event := 0, kind := .orderBefore, times := some [trigger], cls := none, inst := none }] else []) ∧
    resultG hooksObs (rhoReg (K := K) enabled trigger) regEnv FUEL "PriceLimitRule.hook_registration" [.ref 3] (regSt "PriceLimitRule" 0)
      = .tuple (if enabled then [hookC { id := 0, event := 0, kind := .orderBefore, times := none, cls := none, inst := none }] else []) ∧
    resultG hooksObs (rhoReg (K := K) enabled trigger) regEnv FUEL "TradingHaltRule.hook_registration" [.ref 3] (regSt "TradingHaltRule" 0)
      = .tuple (if enabled then
          [hookC { id := 0, event := 0, kind := .executionAfter, times := none, cls := none, inst := none },
           hookC { id := 0, event := 0, kind := .marketBefore, times := none, cls := none, inst := some 0 },
           hookC { id := 0, event := 0, kind := .marketBefore, times := none, cls := none, inst := some 1 }] else []) :=
  ⟨hookreg_src ("OrderMistakeShock", 0, [hookO .orderBefore (some [.atom 1]) none]) (by simp [registrations]) enabled trigger,
    hookreg_src ("PriceLimitRule", 0, [hookO .orderBefore none none]) (by simp [registrations]) enabled trigger,
    hookreg_src ("TradingHaltRule", 0,
        [hookO .executionAfter none none, hookO .marketBefore none (some 0), hookO .marketBefore none (some 1)])
      (by simp [registrations]) enabled trigger⟩

end Pams.Src
