/-
`Order.__lt__`, `Order.__eq__` and the price a matched pair proposes as decision trees over *terms*: the model
trees of the comparison methods themselves (SrcOrder) and of what calls them — `heappush`, `list.remove` in
`_add_order`, `_cancel_order`, `_update_time`; the rounds of SrcMarket, SrcMarket21 — put in the atoms of their own
states.  Each comes with the one lemma
through which the families use it: what the tree denotes under any valuation that reads the terms as the
model's values (for `eqT`: between orders of distinct ids, the only case the families meet).
-/
import PamsModel.Match
import PamsLemmas.Agree

namespace Pams.Src
open Pams Pams.Py
open ITerm NTerm BTerm Tree

variable {K : Type} [LinearOrder K] [NumOpsC K] {α : Type}

/-- the terms an order object's `price` (`none`: a market order), `placed_at` and `order_id` hold -/
structure OrdT where
  price : Option NTerm
  placedAt : ITerm
  id : ITerm

def OrdT.reads (t : OrdT) (ρ : Rho K) (o : Order K) : Prop :=
  t.price.map (NTerm.eval ρ) = o.price ∧ t.placedAt.eval ρ = o.placedAt ∧ t.id.eval ρ = o.id

/-- the order object at address `k` in the layout all families share (`symOrder` of SrcOrder): its price is the num
atom `k` (`limit`: it has one), `placed_at` the int atom `10 k + 1`, `order_id` the int atom `10 k` -/
def ordAt (k : Nat) (limit : Bool) : OrdT := ⟨optAtom limit k, atom (10 * k + 1), atom (10 * k)⟩

/-- `_compare_placed_at(a, b)` of `Order._gt_lt` (with `gt = False`) -/
def placedT (a b : OrdT) (yes no : Tree α) : Tree α :=
  node (ieq a.placedAt b.placedAt)
    (fun _ => node (ilt a.id b.id) (fun _ => yes) (fun _ => no))
    (fun _ => node (ilt a.placedAt b.placedAt) (fun _ => yes) (fun _ => no))

/-- `a < b` (`Order.__lt__`, on the side `isBuy`): a market order first, then the better price, then
`placedT` -/
def ltT (isBuy : Bool) (a b : OrdT) (yes no : Tree α) : Tree α :=
  match a.price, b.price with
  | none, none => placedT a b yes no
  | none, some _ => yes
  | some _, none => no
  | some pa, some pb =>
    node (neq pa pb) (fun _ => placedT a b yes no)
      (fun _ => node (if isBuy then nlt pb pa else nlt pa pb) (fun _ => yes) (fun _ => no))

/-- `a == b` (`Order.__eq__`) for two orders of one side: id, price, acceptance time -/
def eqT (a b : OrdT) (yes no : Tree α) : Tree α :=
  node (ieq a.id b.id)
    (fun _ =>
      match a.price, b.price with
      | some pa, some pb =>
        node (neq pa pb) (fun _ => node (ieq a.placedAt b.placedAt) (fun _ => yes) (fun _ => no)) (fun _ => no)
      | none, none => node (ieq a.placedAt b.placedAt) (fun _ => yes) (fun _ => no)
      | _, _ => no)
    (fun _ => no)

/-- the price the pair `a` / `b` proposes as `_execution` finds it (`pairPrice`): the limit side against a market
order; of two limit orders the one accepted earlier, the lower id at equal times — at equal ids the source
asserts, and two market orders propose none -/
def pairT (a b : OrdT) : Tree (Option NTerm) :=
  match a.price, b.price with
  | none, none => leaf none
  | some p, none => leaf (some p)
  | none, some q => leaf (some q)
  | some p, some q =>
    node (ieq a.placedAt b.placedAt)
      (fun _ => node (ilt a.id b.id) (fun _ => leaf (some p))
        (fun _ => node (ilt b.id a.id) (fun _ => leaf (some q)) (fun _ => leaf none)))
      (fun _ => node (ilt a.placedAt b.placedAt) (fun _ => leaf (some p)) (fun _ => leaf (some q)))

/-- the rest of a round once its price is known; without a price the source raises -/
def atPrice (p : Option K) (F : K → CObs K) : CObs K :=
  match p with
  | none => .err (.raise "AssertionError")
  | some p => F p

def atPriceT (k : NTerm → Tree Obs) : Option NTerm → Tree Obs
  | none => raiseT "AssertionError"
  | some p => k p

section denote
variable {ρ : Rho K} {ta tb : OrdT} {a b : Order K}

theorem pairT_denote (ha : ta.reads ρ a) (hb : tb.reads ρ b) (hid : a.id ≠ b.id) :
    ((pairT ta tb).denote ρ).map (NTerm.eval ρ) = pairPrice a b := by
  have hpa := ha.1
  have hpb := hb.1
  rcases ta with ⟨_ | pa, la, ia⟩ <;> rcases tb with ⟨_ | pb, lb, ib⟩ <;> simp only [Option.map] at hpa hpb <;>
    simp only [pairT, pairPrice, ← hpa, ← hpb, Tree.denote, Option.map]
  -- two limit orders: acceptance time, then id
  have ht : la.eval ρ = a.placedAt := ha.2.1
  have hi : ia.eval ρ = a.id := ha.2.2
  have ht' : lb.eval ρ = b.placedAt := hb.2.1
  have hi' : ib.eval ρ = b.id := hb.2.2
  by_cases h1 : a.placedAt = b.placedAt
  · rcases Nat.lt_or_gt_of_ne hid with h2 | h2
    · simp [py_eval, ht, ht', hi, hi', h1, h2]
    · simp [py_eval, ht, ht', hi, hi', h1, h2, Nat.lt_asymm h2]
  · by_cases h2 : a.placedAt < b.placedAt <;> simp [py_eval, ht, ht', h1, h2]

theorem atPriceT_denote (k : NTerm → Tree Obs) (F : K → CObs K)
    (hk : ∀ p, ((k p).denote ρ).eval ρ = F (p.eval ρ)) (p : Option NTerm) :
    ((atPriceT k p).denote ρ).eval ρ = atPrice (p.map (NTerm.eval ρ)) F := by
  cases p
  · rfl
  · exact hk _

theorem placedT_denote (ha : ta.reads ρ a) (hb : tb.reads ρ b) (yes no : Tree α) :
    (placedT ta tb yes no).denote ρ = if cmpPlaced false a b then yes.denote ρ else no.denote ρ := by
  by_cases h : a.placedAt = b.placedAt <;> simp [placedT, cmpPlaced, py_eval, ha.2.1, ha.2.2, hb.2.1, hb.2.2, h]

theorem ltT_denote (ha : ta.reads ρ a) (hb : tb.reads ρ b) (yes no : Tree α) :
    (ltT a.isBuy ta tb yes no).denote ρ = if a.lt b then yes.denote ρ else no.denote ρ := by
  have hc := placedT_denote ha hb yes no
  have hpa := ha.1
  have hpb := hb.1
  rcases ta with ⟨_ | pa, la, ia⟩ <;> rcases tb with ⟨_ | pb, lb, ib⟩ <;> simp only [Option.map] at hpa hpb <;>
    simp [ltT, Order.lt, gtLt, ← hpa, ← hpb, hc]
  by_cases he : pa.eval ρ = pb.eval ρ
  · simp [py_eval, he, hc]
  · cases a.isBuy <;> simp [py_eval, he]

theorem eqT_denote_ne (h : ta.id.eval ρ ≠ tb.id.eval ρ) (yes no : Tree α) :
    (eqT ta tb yes no).denote ρ = no.denote ρ := by
  simp [eqT, py_eval, h]

end denote

end Pams.Src
