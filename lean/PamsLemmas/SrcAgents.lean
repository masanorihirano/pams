/-
The built-in agents' decision code as it stands in /repo (translated: `PamsGen.Code`) against the models
of PamsModel/Agents.lean (method: the header of Agree.lean; the trees are `arbT`, `mmT`, `msT`, `bpT`, and `fcnT` in
SrcAgentsFcn.lean, with the emitted orders as terms at the leaves).  The source theorems of the arbitrage agent,
the market maker's orders and the FCN agent in fixed-margin mode are stated in PamsProps/SrcAgents.lean
(`C20.source_arbitrage_is_model`, `source_market_maker_is_model`, `source_fcn_is_formula`).

* `ArbitrageAgent.submit_orders` / `_submit_orders` = `arbOrders (arbSide …)`: over a plain market
  (address 5, skipped) and an index market (address 9) of two components (5, 6);
* `MarketMakerAgent.submit_orders` = `mmOrders` around `get_base_price` (extern here) or the market price;
* `MarketShareFCNAgent.submit_orders`: the accessible markets and their traded volume over the window go to
  `choices`, the FCN order (extern here) is made for the market drawn;
* `MarketMakerAgent.get_base_price` = the mean of the highest accessible best bid and the lowest accessible best
  ask (`baseObs`, `pickMax`, `pickMin`);
* `FCNAgent.submit_orders_by_market` = `fcnOrders (fcnExpected (fcnLogReturn …))`, in SrcAgentsFcn.lean.

Markets answer their getters by oracle (num / bool atoms); `Order(...)` is an oracle that allocates an
object holding exactly the arguments.  Observed: the emitted orders, field by field.
-/
import PamsGen.Code
import PamsModel.Agents
import PamsLemmas.SrcOrder
import PamsLemmas.Agree

namespace Pams.Src
open Pams Pams.Py Pams.Py.Tree Pams.Agents

variable {K : Type} [LinearOrder K] [NumOpsC K]

/-- the models' arithmetic signature read off the source's -/
@[reducible] instance arithTOfOps : ArithT K :=
  { toArith := (pyNumOfOrder (K := K)).toArith, exp := NumOpsC.exp, log := NumOpsC.log }

/-- `Order(agent_id, market_id, is_buy, kind, volume, price, ttl)` (keyword order of the call sites):
a fresh object holding the arguments -/
def mkOrderExt (st : St) (args : List Val) : Option (Val × St) :=
  match args with
  | [aid, mid, isBuy, kind, vol, price, ttl] =>
    let a := st.next
    let st := ((((((((st.set a "__class__" (.str "Order")).set a "agent_id" aid).set a "market_id" mid).set a "is_buy" isBuy).set a
      "kind" kind).set a "volume" vol).set a "price" price).set a "ttl" ttl)
    some (.ref a, { st with next := a + 1 })
  | _ => none

def orderObs (st : St) : Val → Obs
  | .ref a => .tuple [Obs.ofOpt (st.heap a "agent_id"), Obs.ofOpt (st.heap a "market_id"), Obs.ofOpt (st.heap a "is_buy"),
                      Obs.ofOpt (st.heap a "kind"), Obs.ofOpt (st.heap a "volume"), Obs.ofOpt (st.heap a "price"),
                      Obs.ofOpt (st.heap a "ttl")]
  | _ => .other

def ordersObs : Except Py.Err (Val × St) → Obs
  | .ok (.list l, st) => .tuple (l.map (orderObs st))
  | .ok _ => .other
  | .error e => .err e

/-- the model's order as observed: agent 7, limit order (the kind constant lives at address 101) -/
def aorderObs (market : Nat) (o : AOrder K) : CObs K :=
  .tuple [.int 7, .int market, .bool o.isBuy, .ref 101, .int o.vol, .num o.price, .int o.ttl]

/-- an emitted order of agent 7 as `orderObs` shows it; the time-to-live is int atom 2 for every agent here -/
def orderO (market : Nat) (isBuy : Bool) (vol : ITerm) (price : NTerm) : Obs :=
  .tuple [.int (.lit 7), .int (.lit market), .bool (.lit isBuy), .ref 101, .int vol, .num price, .int (.atom 2)]

section
variable (ρ : Rho K)

theorem orderO_eval (market : Nat) (isBuy : Bool) (vol : ITerm) (price : NTerm) (v ttl : Nat)
    (hv : vol.eval ρ = v) (httl : ρ.i 2 = ttl) :
    (orderO market isBuy vol price).eval ρ = aorderObs market ⟨isBuy, price.eval ρ, v, ttl⟩ := by
  simp [orderO, aorderObs, py_eval, hv, httl]
end

def arbAgent : String → Option Val
  | "__class__" => some (.str "ArbitrageAgent")
  | "agent_id" => some (.int (.lit 7))
  | "order_volume" => some (.int (.atom 1))
  | "order_threshold_price" => some (.num (.atom 1))
  | "order_time_length" => some (.int (.atom 2))
  | _ => none

/-- the index market (id 2): running flag = bool atom 2 -/
def arbIndex : String → Option Val
  | "__class__" => some (.str "IndexMarket")
  | "market_id" => some (.int (.lit 2))
  | "_is_running" => some (.bool (.atom 2))
  | _ => none

/-- a component (id `k`): outstanding shares = int atom 50 + 10 k -/
def arbComp (k : Nat) : String → Option Val
  | "__class__" => some (.str "Market")
  | "market_id" => some (.int (.lit k))
  | "outstanding_shares" => some (.int (.atom (50 + 10 * k)))
  | _ => none

def arbHeap : Nat → String → Option Val :=
  fun addr => if addr = 1 then arbAgent else if addr = 9 then arbIndex else if addr = 5 then arbComp 0
    else if addr = 6 then arbComp 1 else fun _ => none

def arbSt : St := { heap := arbHeap, calls := [] }

/-- accessibility = bool atom 1, all components running = bool atom 3, the index = num atom 2, prices =
num atoms 3 (index market), 5, 6 (components) -/
def arbExt : Ext := fun st recv fn args =>
  match recv, fn, args with
  | .ref 1, "is_market_accessible", [_] => some (.bool (.atom 1), st)
  | .ref 9, "get_components", [] => some (.list [.ref 5, .ref 6], st)
  | .ref 9, "is_all_markets_running", [] => some (.bool (.atom 3), st)
  | .ref 9, "get_index", [] => some (.num (.atom 2), st)
  | .ref 9, "get_market_price", [] => some (.num (.atom 3), st)
  | .ref 5, "get_market_price", [] => some (.num (.atom 5), st)
  | .ref 6, "get_market_price", [] => some (.num (.atom 6), st)
  | .none, "Order", as => mkOrderExt st as
  | _, _, _ => none

def agentGlobals : String → Option Val := fun x =>
  if x = "IndexMarket" then some (.str "IndexMarket") else if x = "MARGIN_FIXED" then some (.int (.lit 0))
  else if x = "MARGIN_NORMAL" then some (.int (.lit 1)) else globals x

/-- the translated program; the market's own getters are extern (the index market's `is_running` is the
translated property of `Market`) -/
def arbEnv : Env :=
  { prog := PamsGen.Code.prog.filter (fun e => e.1.startsWith "ArbitrageAgent." || e.1 == "Market.is_running"),
    globals := agentGlobals, ext := arbExt, mro := PamsGen.Code.mroOf }

/-- valuation: order volume `v`, time-to-live `ttl`, threshold `th`, index `idx`, prices `ip` (index
market), `p0`, `p1` (components), shares `s0`, `s1`; the three flags -/
def rhoArb (v ttl : Nat) (th idx ip p0 p1 : K) (s0 s1 : Int) (accessible running allRunning : Bool) : Rho K :=
  { i := fun k => if k = 1 then v else if k = 2 then ttl else if k = 50 then s0 else if k = 60 then s1 else 0
    n := fun k => if k = 1 then th else if k = 2 then idx else if k = 3 then ip else if k = 5 then p0 else p1
    b := fun k => if k = 1 then accessible else if k = 2 then running else allRunning }

/-- what the model says the agent emits: nothing unless the index market is accessible and it and all its
components are running; components of unequal share counts are refused; else the hedged basket of
`arbOrders` for the side `arbSide` picks (the index market has id 2, its components ids 0 and 1) -/
def arbExpected (v ttl : Nat) (th idx ip p0 p1 : K) (s0 s1 : Int) (accessible running allRunning : Bool) : CObs K :=
  if accessible ∧ running ∧ allRunning then
    if s1 = s0 then
      .tuple ((arbOrders (arbSide ip idx th) 2 ip [(0, p0), (1, p1)] v ttl).map (fun mo => aorderObs mo.1 mo.2))
    else .err (.raise "NotImplementedError")
  else .tuple []

/-- the hedged basket: the index market (id 2) one way, its two components the other way -/
def basketO (buyIndex : Bool) : Obs :=
  .tuple [orderO 2 buyIndex (.mul (.lit 2) (.atom 1)) (.atom 3), orderO 0 (!buyIndex) (.atom 1) (.atom 5),
          orderO 1 (!buyIndex) (.atom 1) (.atom 6)]

/-- `arbSide` of index-market price (num atom 3), index (2) and threshold (1), then the basket.  The source asks
the second pair of tests whatever the first gave; the order-pruned paths leave out those that cannot be -/
def arbSideT : Tree Obs :=
  ifT (.nlt (.atom 3) (.atom 2))
    (ifT (.nlt (.atom 1) (.sub (.atom 2) (.atom 3))) (.leaf (basketO true)) (.leaf (.tuple [])))
    (ifT (.nlt (.atom 2) (.atom 3))
      (ifT (.nlt (.atom 1) (.sub (.atom 3) (.atom 2))) (.leaf (basketO false)) (.leaf (.tuple [])))
      (.leaf (.tuple [])))

def arbT : Tree Obs :=
  ifT (.atom 1)
    (ifT (.atom 2)
      (ifT (.atom 3) (ifT (.ieq (.atom 60) (.atom 50)) arbSideT (raiseT "NotImplementedError")) (.leaf (.tuple [])))
      (.leaf (.tuple [])))
    (.leaf (.tuple []))

theorem arb_agree : agreesA [] ordersObs arbEnv FUEL "ArbitrageAgent.submit_orders" [.ref 1, .list [.ref 5, .ref 9]]
    arbSt arbT = true := by decide +kernel

section
variable (ρ : Rho K) (v ttl : Nat)

theorem basketO_eval (hv : ρ.i 1 = v) (httl : ρ.i 2 = ttl) (b : Bool) :
    (basketO b).eval ρ = .tuple ((arbOrders (some b) 2 (ρ.n 3) [(0, ρ.n 5), (1, ρ.n 6)] v ttl).map
      (fun mo => aorderObs mo.1 mo.2)) := by
  simp [basketO, arbOrders, orderO_eval ρ _ _ (.atom 1) _ v ttl hv httl,
    orderO_eval ρ _ _ (.mul (.lit 2) (.atom 1)) _ (2 * v) ttl (by simp [py_eval, hv]) httl, py_eval]

theorem arbSideT_denote (hv : ρ.i 1 = v) (httl : ρ.i 2 = ttl) :
    (arbSideT.denote ρ).eval ρ = .tuple ((arbOrders (arbSide (ρ.n 3) (ρ.n 2) (ρ.n 1)) 2 (ρ.n 3)
      [(0, ρ.n 5), (1, ρ.n 6)] v ttl).map (fun mo => aorderObs mo.1 mo.2)) := by
  unfold arbSideT arbSide
  by_cases h1 : ρ.n 3 < ρ.n 2
  · by_cases h2 : ρ.n 1 < ρ.n 2 - ρ.n 3
    · simp [py_eval, h1, h2, basketO_eval ρ v ttl hv httl]
    · simp [py_eval, h1, h2, lt_asymm h1, arbOrders]
  · by_cases h3 : ρ.n 2 < ρ.n 3
    · by_cases h4 : ρ.n 1 < ρ.n 3 - ρ.n 2
      · simp [py_eval, h1, h3, h4, basketO_eval ρ v ttl hv httl]
      · simp [py_eval, h1, h3, h4, arbOrders]
    · simp [py_eval, h1, h3, arbOrders]

theorem arbT_denote (hv : ρ.i 1 = v) (httl : ρ.i 2 = ttl) :
    (arbT.denote ρ).eval ρ =
      arbExpected v ttl (ρ.n 1) (ρ.n 2) (ρ.n 3) (ρ.n 5) (ρ.n 6) (ρ.i 50) (ρ.i 60) (ρ.b 1) (ρ.b 2) (ρ.b 3) := by
  unfold arbT arbExpected
  cases h1 : ρ.b 1 <;> cases h2 : ρ.b 2 <;> cases h3 : ρ.b 3 <;> simp [py_eval, h1, h2, h3]
  by_cases hs : ρ.i 60 = ρ.i 50 <;> simp [hs, py_eval, arbSideT_denote ρ v ttl hv httl]
end

def mmAgent : String → Option Val
  | "__class__" => some (.str "MarketMakerAgent")
  | "agent_id" => some (.int (.lit 7))
  | "target_market" => some (.ref 5)
  | "net_interest_spread" => some (.num (.atom 1))
  | "order_time_length" => some (.int (.atom 2))
  | _ => none

def mmHeap : Nat → String → Option Val :=
  fun addr => if addr = 1 then mmAgent else if addr = 5 then arbComp 0 else fun _ => none

def mmSt : St := { heap := mmHeap, calls := [] }

/-- `get_base_price` answers `None` or num atom 2 (shape); the target market's price = num atom 3, its
fundamental price = num atom 4 -/
def mmExt (hasBase : Bool) : Ext := fun st recv fn args =>
  match recv, fn, args with
  | .ref 1, "get_base_price", [_] => some (if hasBase then .num (.atom 2) else .none, st)
  | .ref 5, "get_market_price", [] => some (.num (.atom 3), st)
  | .ref 5, "get_fundamental_price", [] => some (.num (.atom 4), st)
  | .none, "Order", as => mkOrderExt st as
  | _, _, _ => none

def mmEnv (hasBase : Bool) : Env :=
  { prog := PamsGen.Code.prog.filter (fun e => e.1 == "MarketMakerAgent.submit_orders"),
    globals := agentGlobals, ext := mmExt hasBase, mro := PamsGen.Code.mroOf }

/-- the orders, and the market list every `get_base_price` call was given -/
def mmObs : Except Py.Err (Val × St) → Obs
  | .ok (.list l, st) =>
    .tuple [.tuple (l.map (orderObs st)),
            .tuple ((st.calls.reverse.filter (fun c => c.fn == "get_base_price")).map (fun c =>
              .tuple (c.args.map (fun a => match a with | .list m => .tuple (m.map Obs.ofVal) | v => Obs.ofVal v))))]
  | .ok _ => .other
  | .error e => .err e

def rhoMm (ttl : Nat) (spread base mp fund : K) : Rho K :=
  { i := fun k => if k = 2 then ttl else 0
    n := fun k => if k = 1 then spread else if k = 2 then base else if k = 3 then mp else fund
    b := fun _ => false }

/-- the two quotes around `base`, and the one `get_base_price` call -/
def mmT (base : NTerm) : Tree Obs :=
  let m : NTerm := .mul (.mul (.atom 4) (.atom 1)) (.div (numLit 1) (numLit 2))
  .leaf (.tuple [.tuple [orderO 0 true (.lit 1) (.sub base m), orderO 0 false (.lit 1) (.add base m)],
                 .tuple [.tuple [.tuple [.ref 5, .ref 6]]]])

theorem mm_agree : ∀ hasBase : Bool,
    agreesP mmObs (mmEnv hasBase) FUEL "MarketMakerAgent.submit_orders" [.ref 1, .list [.ref 5, .ref 6]] mmSt
      (mmT (if hasBase then .atom 2 else .atom 3)) = true := by decide +kernel

theorem mmT_denote (ρ : Rho K) (ttl : Nat) (httl : ρ.i 2 = ttl) (base : NTerm) :
    ((mmT base).denote ρ).eval ρ =
      .tuple [.tuple ((mmOrders (base.eval ρ) (ρ.n 4) (ρ.n 1) (PyNum.ofInt 1 / PyNum.ofInt 2) ttl).map (aorderObs 0)),
              .tuple [.tuple [.tuple [.ref 5, .ref 6]]]] := by
  simp [mmT, mmOrders, orderO_eval ρ 0 _ (.lit 1) _ 1 ttl rfl httl, py_eval]

def msAgent : String → Option Val
  | "__class__" => some (.str "MarketShareFCNAgent")
  | "time_window_size" => some (.int (.lit 3))
  | _ => none

/-- market `k` (address 5 + k) at clock `now`, with eight recorded volume slots (int atoms 50 + 10 k + slot) -/
def msMarket (k : Nat) (now : Nat) : String → Option Val
  | "__class__" => some (.str "Market")
  | "market_id" => some (.int (.lit k))
  | "time" => some (.int (.lit now))
  | "_executed_volumes" => some (.list ((List.range 8).map (fun s => .int (.atom (50 + 10 * k + s)))))
  | _ => none

def msSt (now : Nat) : St :=
  { heap := fun a => if a = 1 then msAgent else if a = 5 then msMarket 0 now else if a = 6 then msMarket 1 now
      else fun _ => none, calls := [] }

/-- accessibility of market `k` = bool atom 1 + k; `choices` answers the first candidate; the FCN order on the
chosen market is extern here (its source theorem is `C20.source_fcn_is_formula`) -/
def msExt : Ext := fun st recv fn args =>
  match recv, fn, args with
  | .ref 1, "is_market_accessible", [.int (.lit k)] => some (.bool (.atom (1 + k.toNat)), st)
  | .ref 1, "get_prng", [] => some (.ref 2, st)
  | .ref 2, "choices", [.list (m :: _), _] => some (.list [m], st)
  | .none, "FCNAgent.submit_orders_by_market", [_, _] => some (.list [], st)
  | _, _, _ => none

def msEnv : Env :=
  { prog := PamsGen.Code.prog.filter (fun e => e.1.startsWith "MarketShareFCNAgent." || e.1 == "Market.get_time" ||
      e.1 == "Market.get_executed_volumes" || e.1 == "Market._extract_sequential_data_by_time"),
    globals := agentGlobals, ext := msExt, mro := PamsGen.Code.mroOf }

/-- the candidates and weights handed to `choices`, and the market the FCN order is then made for -/
def msObs : Except Py.Err (Val × St) → Obs
  | .ok (_, st) =>
    .tuple ((st.calls.reverse.filter (fun c => c.fn == "choices" || c.fn == "FCNAgent.submit_orders_by_market")).map
      (fun c => .tuple (Obs.str c.fn :: c.args.map (fun a => match a with
        | .list l => .tuple (l.map Obs.ofVal) | v => Obs.ofVal v))))
  | .error e => .err e

def rhoMs (a0 a1 : Bool) (vol : Nat → Nat → Int) : Rho K :=
  { i := fun k => if 50 ≤ k ∧ k < 60 then vol 0 (k - 50) else if 60 ≤ k ∧ k < 70 then vol 1 (k - 60) else 0
    n := fun _ => PyNum.ofInt 0
    b := fun k => if k = 1 then a0 else a1 }

/-- the weight of a market: its traded volume over the window, as a float, plus 1e-10 -/
def msWeight (total : Int) : K := PyNum.ofInt total + PyNum.ofInt 1 / PyNum.ofInt 10000000000

def msCall (cands : List Nat) (ws : List K) : List (CObs K) :=
  match cands with
  | [] => []
  | m :: _ => [.tuple [.str "choices", .tuple (cands.map CObs.ref), .tuple (ws.map CObs.num)],
               .tuple [.str "FCNAgent.submit_orders_by_market", .ref 1, .ref m]]

/-- `float(sum(volumes of market k over the slots)) + 1e-10`; `sum` starts from 0 -/
def msWeightN (k : Nat) (slots : List Nat) : NTerm :=
  .add (.ofInt (slots.foldl (fun s i => .add s (.atom (50 + 10 * k + i))) (.lit 0)))
    (.div (numLit 1) (numLit 10000000000))

/-- the call of `choices` on the candidate markets `k :: ks`, then the FCN order for the first of them -/
def msCallO (slots : List Nat) (k : Nat) (ks : List Nat) : Obs :=
  .tuple [.tuple [.str "choices", .tuple ((k :: ks).map fun j => .ref (5 + j)),
                  .tuple ((k :: ks).map fun j => .num (msWeightN j slots))],
          .tuple [.str "FCNAgent.submit_orders_by_market", .ref 1, .ref (5 + k)]]

/-- `submit_orders` when the window covers the volume slots `slots` -/
def msT (slots : List Nat) : Tree Obs :=
  ifT (.atom 1) (ifT (.atom 2) (.leaf (msCallO slots 0 [1])) (.leaf (msCallO slots 0 [])))
    (ifT (.atom 2) (.leaf (msCallO slots 1 [])) (raiseT "AssertionError"))

/-- the clock and the slots of the window then: at clock 1 the window is cut at time 0 -/
theorem ms_agree : ∀ c ∈ [(5, [2, 3, 4, 5]), (1, [0, 1])],
    agreesP msObs msEnv FUEL "MarketShareFCNAgent.submit_orders" [.ref 1, .list [.ref 5, .ref 6]] (msSt c.1)
      (msT c.2) = true := by
  decide +kernel

section
variable (ρ : Rho K)

theorem msWeightN_eval (k : Nat) (slots : List Nat) :
    (msWeightN k slots).eval ρ = msWeight (slots.foldl (fun s i => s + ρ.i (50 + 10 * k + i)) 0) := by
  have h (l : List Nat) : ∀ acc : ITerm, (l.foldl (fun s i => .add s (.atom (50 + 10 * k + i))) acc).eval ρ =
      l.foldl (fun s i => s + ρ.i (50 + 10 * k + i)) (acc.eval ρ) := by
    induction l with
    | nil => exact fun _ => rfl
    | cons i l ih => exact fun acc => ih _
  simp [msWeightN, msWeight, py_eval, h]

theorem msT_denote (slots : List Nat) :
    ((msT slots).denote ρ).eval ρ =
      if ρ.b 1 = false ∧ ρ.b 2 = false then .err (.raise "AssertionError") else
        .tuple (msCall ((if ρ.b 1 then [5] else []) ++ (if ρ.b 2 then [6] else []))
          ((if ρ.b 1 then [msWeight (slots.foldl (fun s i => s + ρ.i (50 + 10 * 0 + i)) 0)] else []) ++
           (if ρ.b 2 then [msWeight (slots.foldl (fun s i => s + ρ.i (50 + 10 * 1 + i)) 0)] else []))) := by
  cases h1 : ρ.b 1 <;> cases h2 : ρ.b 2 <;> simp [msT, msCallO, msCall, msWeightN_eval, py_eval, h1, h2]
end

/-- **the market-share agent weighs every accessible market by its traded volume over the last
`time_window_size` steps up to now** (clock 5, window 3: slots 2 … 5; clock 1: slots 0 … 1 — the window is cut
at time 0), hands exactly these candidates and weights to `choices`, and makes its FCN order for the market
drawn; with no accessible market it refuses -/
theorem ms_src (a0 a1 : Bool) (vol : Nat → Nat → Int) :
    resultG msObs (rhoMs (K := K) a0 a1 vol) msEnv FUEL "MarketShareFCNAgent.submit_orders" [.ref 1, .list [.ref 5, .ref 6]] (msSt 5)
      = (if a0 = false ∧ a1 = false then .err (.raise "AssertionError") else
          .tuple (msCall ((if a0 then [5] else []) ++ (if a1 then [6] else []))
            ((if a0 then [msWeight (0 + vol 0 2 + vol 0 3 + vol 0 4 + vol 0 5)] else []) ++
             (if a1 then [msWeight (0 + vol 1 2 + vol 1 3 + vol 1 4 + vol 1 5)] else [])))) ∧
    resultG msObs (rhoMs (K := K) a0 a1 vol) msEnv FUEL "MarketShareFCNAgent.submit_orders" [.ref 1, .list [.ref 5, .ref 6]] (msSt 1)
      = (if a0 = false ∧ a1 = false then .err (.raise "AssertionError") else
          .tuple (msCall ((if a0 then [5] else []) ++ (if a1 then [6] else []))
            ((if a0 then [msWeight (0 + vol 0 0 + vol 0 1)] else []) ++
             (if a1 then [msWeight (0 + vol 1 0 + vol 1 1)] else [])))) := by
  rw [resultG_eq_of_agreeP _ (ms_agree (5, [2, 3, 4, 5]) (by simp)), resultG_eq_of_agreeP _ (ms_agree (1, [0, 1]) (by simp))]
  exact ⟨msT_denote _ _, msT_denote _ _⟩

/-! ### `MarketMakerAgent.get_base_price` -/

/-- which quotes exist: market `k` (address 5 + k) has a best bid (num atom 20 + k) / a best ask (30 + k) or none -/
structure QuoteShape where
  bid : Nat → Bool
  ask : Nat → Bool

def bpExt (q : QuoteShape) : Ext := fun st recv fn args =>
  match recv, fn, args with
  | .ref 1, "is_market_accessible", [.int (.lit k)] => some (.bool (.atom (1 + k.toNat)), st)
  | .ref m, "get_best_buy_price", [] =>
    if m = 5 ∨ m = 6 then some (if q.bid (m - 5) then .num (.atom (20 + (m - 5))) else .none, st) else none
  | .ref m, "get_best_sell_price", [] =>
    if m = 5 ∨ m = 6 then some (if q.ask (m - 5) then .num (.atom (30 + (m - 5))) else .none, st) else none
  | _, _, _ => none

def bpSt : St :=
  { heap := fun a => if a = 1 then mmAgent else if a = 5 then (fun f => match f with
      | "market_id" => some (.int (.lit 0)) | _ => none) else if a = 6 then (fun f => match f with
      | "market_id" => some (.int (.lit 1)) | _ => none) else fun _ => none, calls := [] }

def bpEnv (q : QuoteShape) : Env :=
  { prog := PamsGen.Code.prog.filter (fun e => e.1 == "MarketMakerAgent.get_base_price"),
    globals := agentGlobals, ext := bpExt q, mro := PamsGen.Code.mroOf }

/-- what `bp_src` assumes of the quotes, as the pruner reads it: every bid above `-inf`, every ask below `inf`
(num atom 1000000), and `2.0 ≠ 0.0` -/
def bpAssume : List (BTerm × Bool) :=
  [(.nlt (.neg (.atom 1000000)) (.atom 20), true), (.nlt (.neg (.atom 1000000)) (.atom 21), true),
   (.nlt (.atom 30) (.atom 1000000), true), (.nlt (.atom 31) (.atom 1000000), true),
   (.neq (numLit 2) (numLit 0), false)]

/-- valuation: accessibility of the two markets, their best bids `b` and asks `s`, and the value `inf` of `float("inf")` -/
def rhoBp (a0 a1 : Bool) (b0 b1 s0 s1 inf : K) : Rho K :=
  { i := fun _ => 0
    n := fun k => if k = 20 then b0 else if k = 21 then b1 else if k = 30 then s0 else if k = 31 then s1 else inf
    b := fun k => if k = 1 then a0 else a1 }

def qAll : QuoteShape := { bid := fun _ => true, ask := fun _ => true }
/-- market 1 has no bid, market 0 no ask -/
def qCross : QuoteShape := { bid := fun k => k = 0, ask := fun k => k = 1 }
def qNoBid : QuoteShape := { bid := fun _ => false, ask := fun _ => true }

/-- the running maximum over the accessible markets that have the quote (ties keep the earlier one) -/
def pickMax (cur : Option K) (acc : Bool) (q : Option K) : Option K :=
  match acc, q, cur with
  | true, some x, none => some x
  | true, some x, some c => some (if c < x then x else c)
  | _, _, c => c
/-- the running minimum likewise -/
def pickMin (cur : Option K) (acc : Bool) (q : Option K) : Option K :=
  match acc, q, cur with
  | true, some x, none => some x
  | true, some x, some c => some (if x < c then x else c)
  | _, _, c => c

/-- the base price: the mean of the highest accessible bid and the lowest accessible ask, or `None` if either
is missing -/
def baseObs (mb ms : Option K) : CObs K :=
  match mb, ms with
  | some b, some s => .num ((b + s) / PyNum.ofInt 2)
  | _, _ => .none

/-- one round of `max_buy = max(max_buy, x)` (resp. `min`): only for an accessible market (bool atom `acc`)
that has the quote `x`; `cur = none` while it is still `∓inf`, which every quote beats (`bpAssume`) -/
def pickT (better : NTerm → NTerm → BTerm) (acc : Nat) (x cur : Option NTerm) : Tree (Option NTerm) :=
  match x with
  | none => .leaf cur
  | some x =>
    ifT (.atom acc)
      (match cur with
        | none => .leaf (some x)
        | some c => ifT (better c x) (.leaf (some x)) (.leaf (some c)))
      (.leaf cur)

def baseO : Option NTerm → Option NTerm → Obs
  | some b, some s => .num (.div (.add b s) (numLit 2))
  | _, _ => .none

def bpT (q : QuoteShape) : Tree Obs :=
  (pickT (fun c x => .nlt c x) 1 (optAtom (q.bid 0) 20) none).bind fun c =>
  (pickT (fun c x => .nlt c x) 2 (optAtom (q.bid 1) 21) c).bind fun mb =>
  (pickT (fun c x => .nlt x c) 1 (optAtom (q.ask 0) 30) none).bind fun c =>
  (pickT (fun c x => .nlt x c) 2 (optAtom (q.ask 1) 31) c).map fun ms => baseO mb ms

theorem bp_agree : ∀ q ∈ [qAll, qCross, qNoBid],
    agreesA bpAssume obs (bpEnv q) FUEL "MarketMakerAgent.get_base_price" [.ref 1, .list [.ref 5, .ref 6]] bpSt
      (bpT q) = true := by
  decide +kernel

section
variable (ρ : Rho K)

/-- `r c x`: the quote `x` replaces the current `c` -/
theorem pickT_denote (r : K → K → Prop) [DecidableRel r] (better : NTerm → NTerm → BTerm)
    (hb : ∀ c x, (better c x).eval ρ = decide (r (c.eval ρ) (x.eval ρ))) (acc : Nat) (x cur : Option NTerm) :
    ((pickT better acc x cur).denote ρ).map (NTerm.eval ρ) =
      (match ρ.b acc, x.map (NTerm.eval ρ), cur.map (NTerm.eval ρ) with
        | true, some x, none => some x
        | true, some x, some c => some (if r c x then x else c)
        | _, _, c => c) := by
  rcases x with _ | x
  · cases ρ.b acc <;> rfl
  · cases ha : ρ.b acc
    · simp [pickT, py_eval, ha]
    · rcases cur with _ | c
      · simp [pickT, py_eval, ha]
      · by_cases h : r (c.eval ρ) (x.eval ρ) <;> simp [pickT, py_eval, ha, hb, h]

theorem baseO_eval (mb ms : Option NTerm) :
    (baseO mb ms).eval ρ = baseObs (mb.map (NTerm.eval ρ)) (ms.map (NTerm.eval ρ)) := by
  rcases mb with _ | b <;> rcases ms with _ | s <;> rfl

theorem bpT_denote (q : QuoteShape) :
    ((bpT q).denote ρ).eval ρ =
      baseObs
        (pickMax (pickMax none (ρ.b 1) (if q.bid 0 then some (ρ.n 20) else none)) (ρ.b 2)
          (if q.bid 1 then some (ρ.n 21) else none))
        (pickMin (pickMin none (ρ.b 1) (if q.ask 0 then some (ρ.n 30) else none)) (ρ.b 2)
          (if q.ask 1 then some (ρ.n 31) else none)) := by
  simp only [bpT, Tree.denote_bind, Tree.denote_map, baseO_eval,
    pickT_denote ρ (· < ·) (fun c x => .nlt c x) (fun _ _ => rfl),
    pickT_denote ρ (fun c x => x < c) (fun c x => .nlt x c) (fun _ _ => rfl), optAtom_map_eval]
  rfl

theorem bpAssume_holds (h1 : -ρ.n 1000000 < ρ.n 20) (h2 : -ρ.n 1000000 < ρ.n 21)
    (h3 : ρ.n 30 < ρ.n 1000000) (h4 : ρ.n 31 < ρ.n 1000000) (h5 : (NumOpsC.ofInt 2 : K) ≠ NumOpsC.ofInt 0) :
    ∀ kb ∈ bpAssume, kb.1.eval ρ = kb.2 := by
  simp [bpAssume, py_eval, h1, h2, h3, h4, h5]
end

/-- **`MarketMakerAgent.get_base_price`**: the mean of the highest best bid and the lowest best ask over the
*accessible* markets that have one; `None` if no accessible market has a bid, or none has an ask.  `inf` is the
value of `float("inf")`: every quote lies strictly between `-inf` and `inf`.  (`2.0` is not `0.0`.) -/
theorem bp_src (a0 a1 : Bool) (b0 b1 s0 s1 inf : K)
    (h1 : -inf < b0) (h2 : -inf < b1) (h3 : s0 < inf) (h4 : s1 < inf) (h5 : (NumOpsC.ofInt 2 : K) ≠ NumOpsC.ofInt 0) :
    resultG obs (rhoBp a0 a1 b0 b1 s0 s1 inf) (bpEnv qAll) FUEL "MarketMakerAgent.get_base_price" [.ref 1, .list [.ref 5, .ref 6]] bpSt
      = baseObs (pickMax (pickMax none a0 (some b0)) a1 (some b1)) (pickMin (pickMin none a0 (some s0)) a1 (some s1)) ∧
    resultG obs (rhoBp a0 a1 b0 b1 s0 s1 inf) (bpEnv qCross) FUEL "MarketMakerAgent.get_base_price" [.ref 1, .list [.ref 5, .ref 6]] bpSt
      = baseObs (pickMax (pickMax none a0 (some b0)) a1 none) (pickMin (pickMin none a0 none) a1 (some s1)) ∧
    resultG obs (rhoBp a0 a1 b0 b1 s0 s1 inf) (bpEnv qNoBid) FUEL "MarketMakerAgent.get_base_price" [.ref 1, .list [.ref 5, .ref 6]] bpSt
      = .none := by
  have hass := bpAssume_holds (rhoBp a0 a1 b0 b1 s0 s1 inf) h1 h2 h3 h4 h5
  have hq (q : QuoteShape) (hmem : q ∈ [qAll, qCross, qNoBid]) :=
    resultG_eq_of_agree _ hass (bp_agree q hmem)
  rw [hq qAll (by simp), hq qCross (by simp), hq qNoBid (by simp), bpT_denote, bpT_denote, bpT_denote]
  refine ⟨rfl, rfl, ?_⟩
  cases a0 <;> cases a1 <;> rfl

end Pams.Src
