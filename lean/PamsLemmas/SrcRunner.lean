/-
`SequentialRunner._handle_orders` / `_collect_orders_from_normal_agents` as they stand in /repo are the
scheduler model's `Runner.handle` / `Runner.collect` — by symbolic execution, on shapes (see
SrcRunnerDefs.lean for what a shape fixes and what stays quantified).

The model side is a decision tree computed from the shape (`handleT`, `collectT`): it asks what the
run can ask — placement, the execution flag, `rate < draw k` for every round, the cap against 0, 1, …
up to the number of agents — and has at each leaf the observation of the model's own function on
these answers.
-/
import PamsLemmas.SrcRunnerDefs
import PamsLemmas.OrderSimp
import PamsLemmas.Agree

namespace Pams.Py.Tree
variable {α : Type} {K : Type} [PyNum K]

/-- ask `x ≤ k`, `x ≤ k + 1`, … (`n` questions) and go on with the first bound that holds, else with
`k + n`: all a loop over `n` agents that stops at `count ≥ x` can find out about `x` -/
def askCap (x : ITerm) : Nat → Nat → (Nat → Tree α) → Tree α
  | k, 0, f => f k
  | k, n + 1, f => node (.ile x (.lit k)) (fun _ => f k) (fun _ => askCap x (k + 1) n f)

@[py_eval] theorem askCap_denote (ρ : Rho K) (x : ITerm) : ∀ (k n : Nat) (f : Nat → Tree α),
    (askCap x k n f).denote ρ = (f (min (max (x.eval ρ) k) (k + n : Nat)).toNat).denote ρ
  | k, 0, f => by
    have : (min (max (x.eval ρ) k) ((k + 0 : Nat) : Int)).toNat = k := by omega
    rw [this, askCap]
  | k, n + 1, f => by
    rw [askCap, denote]
    by_cases h : x.eval ρ ≤ k
    · have : (min (max (x.eval ρ) k) ((k + (n + 1) : Nat) : Int)).toNat = k := by omega
      simp only [BTerm.eval, ITerm.eval, h, decide_true, if_true, this]
    · have : min (max (x.eval ρ) k) ((k + (n + 1) : Nat) : Int)
          = min (max (x.eval ρ) (k + 1 : Nat)) ((k + 1 + n : Nat) : Int) := by omega
      simp only [BTerm.eval, ITerm.eval, h, decide_false, Bool.false_eq_true, if_false, this]
      exact askCap_denote ρ x (k + 1) n f

end Pams.Py.Tree

/-! ### the scheduler looks at a cap only through `count ≥ cap` -/

namespace Pams.Runner

/-- two caps are alike for a list of `L` agents if they compare alike with every count `k < L` -/
def CapLike (L : Nat) (c c' : Int) : Prop := ∀ k < L, ((k : Int) ≥ c ↔ (k : Int) ≥ c')

theorem CapLike.mono {L L' : Nat} {c c' : Int} (h : CapLike L c c') (hl : L' ≤ L) : CapLike L' c c' :=
  fun k hk => h k (Nat.lt_of_lt_of_le hk hl)

/-- a cap cut off at 0 and at the number of agents (what `Tree.askCap` finds out) is like the cap -/
theorem capLike_clamp (c : Int) (L : Nat) :
    CapLike L ((min (max c (0 : Nat)) ((0 + L : Nat) : Int)).toNat : Int) c := by
  intro k hk
  omega

theorem collect_congr (hft : Bool) {c c' : Int} (answer : Nat → List Request) :
    ∀ (as : List Nat) (n : Nat), CapLike (n + as.length) c c' →
      collect hft c answer as n = collect hft c' answer as n
  | [], _, _ => by rw [collect, collect]
  | a :: as, n, h => by
    have h0 := h n (by simp)
    have ih0 := collect_congr hft answer as n (h.mono (by simp))
    have ih1 := collect_congr hft answer as (n + 1) (h.mono (by simp; omega))
    rw [collect, collect]
    simp only [h0, ih0, ih1]

theorem hftRound_congr (t : Nat) {c c' : Int} (answer : Nat → List Request) :
    ∀ (as : List Nat) (n : Nat) (flag : Bool), CapLike (n + as.length) c c' →
      hftRound t c answer as n flag = hftRound t c' answer as n flag
  | [], _, _, _ => by rw [hftRound, hftRound]
  | a :: as, n, flag, h => by
    have h0 := h n (by simp)
    have ih0 := fun fl => hftRound_congr t answer as n fl (h.mono (by simp))
    have ih1 := fun fl => hftRound_congr t answer as (n + 1) fl (h.mono (by simp; omega))
    rw [hftRound, hftRound]
    simp only [h0, ih0, ih1]

theorem handle_congr (t : Nat) {c c' : Int} {L : Nat} (h : CapLike L c c') :
    ∀ (bs : List (Nat × List Request)) (rts : List RoundTape) (flag : Bool),
      (∀ rt ∈ rts, rt.perm.length ≤ L) → handle t c bs rts flag = handle t c' bs rts flag
  | [], _, _, _ => by rw [handle, handle]
  | b :: bs, rts, flag, hr => by
    have hround (fl : Bool) :
        hftRound t c (rts.headD ⟨false, [], fun _ => []⟩).answer (rts.headD ⟨false, [], fun _ => []⟩).perm 0 fl
          = hftRound t c' (rts.headD ⟨false, [], fun _ => []⟩).answer (rts.headD ⟨false, [], fun _ => []⟩).perm 0 fl := by
      refine hftRound_congr t _ _ 0 fl (h.mono ?_)
      cases rts with
      | nil => simp
      | cons rt rts => simpa using hr rt (by simp)
    have ih := fun fl => handle_congr t h bs rts.tail fl (fun rt hrt => hr rt (List.mem_of_mem_tail hrt))
    rw [handle, handle]
    simp only [hround, ih]

end Pams.Runner

namespace Pams.Src
open Pams Pams.Py Pams.Runner
variable {K : Type}

section
variable (p f : Bool) (r : K) (d : Nat → K) (ch cn : Int)
@[py_eval] theorem rhoRun_b1 : (rhoRun p f r d ch cn).b 1 = p := rfl
@[py_eval] theorem rhoRun_b2 : (rhoRun p f r d ch cn).b 2 = f := rfl
@[py_eval] theorem rhoRun_i1 : (rhoRun p f r d ch cn).i 1 = ch := rfl
@[py_eval] theorem rhoRun_i2 : (rhoRun p f r d ch cn).i 2 = cn := rfl
@[py_eval] theorem rhoRun_n1 : (rhoRun p f r d ch cn).n 1 = r := rfl
@[py_eval] theorem rhoRun_draw (k : Nat) : (rhoRun p f r d ch cn).n (2 + k) = d k := by
  have : ¬ 2 + k = 1 := by omega
  simp [rhoRun, this]
end

variable [LinearOrder K] [NumOpsC K]

/-! ### the model's observation as a term

`evCalls` builds its observation from strings and addresses only, the same at every number type: at
`Empty` it can be turned into the term that denotes it. -/

mutual
def quote : CObs Empty → Obs
  | .bool b => .bool (.lit b)
  | .int i => .int (.lit i)
  | .num x => nomatch x
  | .none => .none
  | .ref a => .ref a
  | .str s => .str s
  | .other => .other
  | .absent => .absent
  | .tuple l => .tuple (quoteList l)
  | .err e => .err e
def quoteList : List (CObs Empty) → List Obs
  | [] => []
  | c :: cs => quote c :: quoteList cs
end

theorem quoteList_append (ρ : Rho K) (a b : List (CObs Empty)) :
    Obs.evalList ρ (quoteList (a ++ b)) = Obs.evalList ρ (quoteList a) ++ Obs.evalList ρ (quoteList b) := by
  induction a with
  | nil => rfl
  | cons c a ih => simp only [List.cons_append, quoteList, Obs.evalList, ih]

theorem quoteList_refs (ρ : Rho K) (l : List Nat) :
    Obs.evalList ρ (quoteList (l.map CObs.ref)) = l.map CObs.ref := by
  induction l with
  | nil => rfl
  | cons a l ih => simp only [List.map_cons, quoteList, quote, Obs.evalList, Obs.eval, ih]

theorem quoteList_evCalls (ρ : Rho K) (ses : Nat) (e : Ev) :
    Obs.evalList ρ (quoteList (evCalls ses e)) = evCalls ses e := by
  cases e <;> simp [evCalls, cCall, mkts, quoteList, quote, Obs.evalList, Obs.eval, quoteList_refs]
  split <;> simp [quoteList, quote, Obs.evalList, Obs.eval]

theorem quoteList_traceCalls (ρ : Rho K) : ∀ (ses : Nat) (es : List Ev),
    Obs.evalList ρ (quoteList (traceCalls ses es)) = traceCalls ses es
  | _, [] => rfl
  | ses, e :: es => by
    simp only [traceCalls, quoteList_append, quoteList_evCalls, quoteList_traceCalls ρ _ es]

/-- the round tapes, given for each round whether it is skipped (`rate < draw k`) -/
def RShape.roundsOf (sh : RShape) (skip : List Bool) : List RoundTape :=
  skip.map fun s => { go := !s, perm := sh.perm, answer := fun a => sh.requests (sh.answer a) }

theorem RShape.rounds_eq (sh : RShape) (rate : K) (draw : Nat → K) : ∀ k n,
    sh.rounds rate draw k n = sh.roundsOf ((List.range' k n).map fun j => decide (rate < draw j))
  | _, 0 => rfl
  | k, n + 1 => by simp [RShape.rounds, RShape.roundsOf, List.range'_succ, sh.rounds_eq rate draw (k + 1) n]

theorem RShape.roundsOf_perm (sh : RShape) (skip : List Bool) :
    ∀ rt ∈ sh.roundsOf skip, rt.perm.length ≤ sh.perm.length := by
  intro rt hrt
  obtain ⟨s, -, rfl⟩ := List.mem_map.1 hrt
  exact Nat.le_refl _

section tree
open Tree BTerm ITerm NTerm

/-- the questions `rate < draw k` for the rounds `k < n` (`rate`: the atom of the session's rate) -/
def skipConds (rate n : Nat) : List BTerm := (List.range n).map fun k => nlt (atom rate) (atom (2 + k))

theorem skipConds_eval (ρ : Rho K) (rate n : Nat) :
    (skipConds rate n).map (·.eval ρ) = (List.range' 0 n).map fun k => decide (ρ.n rate < ρ.n (2 + k)) := by
  simp only [skipConds, List.range_eq_range', List.map_map]
  rfl

/-- the execution flag after a run as a term: the session's own atom `a`, unless a hook wrote the field -/
def flagB (a : Nat) (before after : Bool) : BTerm := if after = before then atom a else lit after

theorem flagB_eval (ρ : Rho K) (a : Nat) (before after : Bool) (h : ρ.b a = before) :
    (flagB a before after).eval ρ = after := by
  unfold flagB
  split <;> simp [BTerm.eval, *]

end tree

/-! ### shapes of `_handle_orders` -/

/-- one order of agent 1 filled at once against agent 2; the high-frequency agent 3 answers with an order -/
def shA : RShape :=
  { reqs := [⟨10, false, 1, 0⟩, ⟨12, false, 3, 0⟩], batches := [[10]], shuffled := [[10]],
    hft := [3], perm := [3], normal := [], nperm := [],
    answer := fun a => if a = 3 then [12] else [],
    fills := fun r => if r = 10 then [⟨30, 1, 2, false⟩] else [] }

/-- a cancel of agent 1; the high-frequency agent has nothing to submit -/
def shB : RShape :=
  { reqs := [⟨10, true, 1, 0⟩], batches := [[10]], shuffled := [[10]],
    hft := [3], perm := [3], normal := [], nperm := [],
    answer := fun _ => [],
    fills := fun _ => [] }

/-- the fill of the first order makes a hook halt trading; the high-frequency order placed afterwards
would be filled too if a round ran -/
def shC : RShape :=
  { reqs := [⟨10, false, 1, 0⟩, ⟨12, false, 3, 0⟩], batches := [[10]], shuffled := [[10]],
    hft := [3], perm := [3], normal := [], nperm := [],
    answer := fun a => if a = 3 then [12] else [],
    fills := fun r => if r = 10 then [⟨30, 1, 2, true⟩] else [⟨31, 3, 1, false⟩] }

/-- two fills in one round, the first of which halts trading -/
def shD : RShape :=
  { reqs := [⟨10, false, 1, 1⟩], batches := [[10]], shuffled := [[10]],
    hft := [], perm := [], normal := [], nperm := [],
    answer := fun _ => [],
    fills := fun _ => [⟨30, 1, 2, true⟩, ⟨31, 2, 1, false⟩] }

/-- the high-frequency agent 3 submits an order in the name of agent 1 -/
def shE : RShape :=
  { reqs := [⟨10, false, 1, 0⟩, ⟨12, false, 1, 0⟩], batches := [[10]], shuffled := [[10]],
    hft := [3], perm := [3], normal := [], nperm := [],
    answer := fun a => if a = 3 then [12] else [],
    fills := fun _ => [] }

/-- two normal batches handled in the order `sample` gives (reversed), each followed by its own
high-frequency round over two agents in the order `sample` gives (reversed) -/
def shF : RShape :=
  { reqs := [⟨10, false, 1, 0⟩, ⟨11, true, 2, 1⟩, ⟨12, false, 3, 0⟩, ⟨13, false, 4, 1⟩],
    batches := [[10], [11]], shuffled := [[11], [10]],
    hft := [3, 4], perm := [4, 3], normal := [], nperm := [],
    answer := fun a => if a = 3 then [12] else if a = 4 then [13] else [],
    fills := fun r => if r = 13 then [⟨30, 4, 1, false⟩] else [] }

/-- one batch of two requests: an order whose fill halts trading, then a cancel on another market -/
def shG : RShape :=
  { reqs := [⟨10, false, 1, 0⟩, ⟨11, true, 1, 1⟩], batches := [[10, 11]], shuffled := [[10, 11]],
    hft := [], perm := [], normal := [], nperm := [],
    answer := fun _ => [],
    fills := fun r => if r = 10 then [⟨30, 2, 1, true⟩] else [⟨31, 1, 2, false⟩] }

/-- closes the per-path goals: the path's conditions decide the model's tests -/
macro "runner_finish " sh:ident : tactic =>
  `(tactic| (all_goals intro h
             all_goals simp [BTerm.eval, ITerm.eval, NTerm.eval, rhoRun, Obs.eval, Obs.evalList] at h ⊢
             all_goals simp_all [lt_false_of_le, le_false_of_lt, outObs, RShape.model, RShape.rounds, RShape.requests,
               RShape.request, $sh:ident, handle, processBatch, processRequest, Out.andThen, hftRound, fillEvents,
               flagAfterFills, evCalls, traceCalls, cCall, mkts, mktAddr, agentAddr, logAddr]))

/-- the statement for a shape: under `with_order_placement`, for every value of the execution flag, the
rate, the draws and the caps, what `_handle_orders` does to its world is what the model's `handle` says -/
def HandleSpec (K : Type) [LinearOrder K] [NumOpsC K] (sh : RShape) : Prop :=
  ∀ (flag : Bool) (rate : K) (draw : Nat → K) (capH capN : Int),
    resultG runnerObs (rhoRun true flag rate draw capH capN) (rEnv sh) FUEL "SequentialRunner._handle_orders"
        [.ref 1, .ref 4, .list (sh.batches.map refs)] (rSt sh)
      = outObs (sh.model flag rate draw capH)

section tree
open Tree BTerm ITerm NTerm

/-- `outObs` as a term; `ft` is the term of the execution flag -/
def outO (ft : BTerm) (o : Out) : Obs :=
  if o.ok then .tuple [.tuple (quoteList (traceCalls 4 o.tr)), .bool ft] else .err (.raise "ValueError")

theorem outO_eval (ρ : Rho K) (ft : BTerm) (o : Out) (h : ft.eval ρ = o.flag) :
    (outO ft o).eval ρ = outObs o := by
  unfold outO outObs
  split <;> simp [Obs.eval, Obs.evalList, quoteList_traceCalls, h]

/-- `_handle_orders` on the shape: placement (the shapes begin with a request, which is refused if it
is off), the execution flag, whether each round is skipped, the cap of the high-frequency agents; at
the leaf the model's `handle` -/
def handleT (sh : RShape) : Tree Obs :=
  node (atom 1)
    (fun _ => ask (atom 2) fun flag => askAll (skipConds 1 sh.shuffled.length) fun skip =>
      askCap (atom 1) 0 sh.perm.length fun cap =>
        let o := handle 0 cap (sh.shuffled.map fun b => (0, sh.requests b)) (sh.roundsOf skip) flag
        leaf (outO (flagB 2 flag o.flag) o))
    (fun _ => raiseT "AssertionError")

end tree

theorem handle_agree : ∀ sh ∈ [shA, shB, shC, shD, shE, shF, shG],
    agreesP runnerObs (rEnv sh) FUEL "SequentialRunner._handle_orders" [.ref 1, .ref 4, .list (sh.batches.map refs)]
      (rSt sh) (handleT sh) = true := by
  decide +kernel

theorem handleT_denote (sh : RShape) (placement flag : Bool) (rate : K) (draw : Nat → K) (capH capN : Int) :
    ((handleT sh).denote (rhoRun placement flag rate draw capH capN)).eval (rhoRun placement flag rate draw capH capN)
      = if placement then outObs (sh.model flag rate draw capH) else .err (.raise "AssertionError") := by
  rw [handleT, Tree.denote]
  cases placement
  · simp [py_eval]
  · simp only [py_eval, if_true, skipConds_eval]
    rw [outO_eval, RShape.model, sh.rounds_eq, handle_congr 0 (capLike_clamp capH sh.perm.length)]
    · exact sh.roundsOf_perm _
    · exact flagB_eval _ 2 flag _ rfl

/-- on these shapes `_handle_orders` does to its world what the model's `handle` says; with placement
off it refuses the first request -/
theorem handle_src {sh : RShape} (hs : sh ∈ [shA, shB, shC, shD, shE, shF, shG])
    (placement flag : Bool) (rate : K) (draw : Nat → K) (capH capN : Int) :
    resultG runnerObs (rhoRun placement flag rate draw capH capN) (rEnv sh) FUEL "SequentialRunner._handle_orders"
        [.ref 1, .ref 4, .list (sh.batches.map refs)] (rSt sh)
      = if placement then outObs (sh.model flag rate draw capH) else .err (.raise "AssertionError") := by
  rw [← handleT_denote sh placement flag rate draw capH capN]
  exact resultG_eq_of_agreeP _ (handle_agree sh hs)

theorem handleSpec_of_mem {sh : RShape} (hs : sh ∈ [shA, shB, shC, shD, shE, shF, shG]) : HandleSpec K sh :=
  fun flag rate draw capH capN => handle_src hs true flag rate draw capH capN

theorem handle_src_A : HandleSpec K shA := handleSpec_of_mem (by simp)

theorem handle_src_B : HandleSpec K shB := handleSpec_of_mem (by simp)

theorem handle_src_C : HandleSpec K shC := handleSpec_of_mem (by simp)

theorem handle_src_D : HandleSpec K shD := handleSpec_of_mem (by simp)

theorem handle_src_E : HandleSpec K shE := handleSpec_of_mem (by simp)

theorem handle_src_F : HandleSpec K shF := handleSpec_of_mem (by simp)

theorem handle_src_G : HandleSpec K shG := handleSpec_of_mem (by simp)

/-- with placement switched off, a request in `local_orders` is refused before anything happens -/
theorem handle_src_placement_off (flag : Bool) (rate : K) (draw : Nat → K) (capH capN : Int) :
    resultG runnerObs (rhoRun false flag rate draw capH capN) (rEnv shA) FUEL "SequentialRunner._handle_orders"
        [.ref 1, .ref 4, .list (shA.batches.map refs)] (rSt shA)
      = .err (.raise "AssertionError") :=
  handle_src (sh := shA) (by simp) false flag rate draw capH capN

/-! ### shapes of `_collect_orders_from_normal_agents` -/

/-- agents 1 and 2, consulted in the order `sample` gives (2 first); both answer with one request -/
def cA : RShape :=
  { reqs := [⟨10, false, 1, 0⟩, ⟨11, true, 2, 1⟩], batches := [], shuffled := [],
    hft := [], perm := [], normal := [1, 2], nperm := [2, 1],
    answer := fun a => if a = 1 then [10] else if a = 2 then [11] else [],
    fills := fun _ => [] }

/-- agent 2 has nothing to submit, agent 1 submits two requests at once (one batch, counted once) -/
def cB : RShape :=
  { reqs := [⟨10, false, 1, 0⟩, ⟨13, false, 1, 1⟩], batches := [], shuffled := [],
    hft := [], perm := [], normal := [1, 2], nperm := [2, 1],
    answer := fun a => if a = 1 then [10, 13] else [],
    fills := fun _ => [] }

/-- agent 2 submits an order in the name of agent 1 -/
def cC : RShape :=
  { reqs := [⟨10, false, 1, 0⟩], batches := [], shuffled := [],
    hft := [], perm := [], normal := [1, 2], nperm := [2, 1],
    answer := fun a => if a = 2 then [10] else [],
    fills := fun _ => [] }

/-- the model's `collect` on the shape, as observed: the consultations and the batches returned -/
def RShape.collectModel (sh : RShape) (capN : Int) : List Ev × Bool × List (Nat × List Request) :=
  collect false capN (fun a => sh.requests (sh.answer a)) sh.nperm 0

def collectOut (r : List Ev × Bool × List (Nat × List Request)) : CObs K :=
  if r.2.1 then .tuple [.tuple (traceCalls 4 r.1), .tuple (r.2.2.map (fun b => .tuple (b.2.map (fun q => CObs.ref q.ref))))]
  else .err (.raise "ValueError")

def CollectSpec (K : Type) [LinearOrder K] [NumOpsC K] (sh : RShape) : Prop :=
  ∀ (flag : Bool) (rate : K) (draw : Nat → K) (capH capN : Int),
    resultG collectObs (rhoRun true flag rate draw capH capN) (rEnv sh) FUEL
        "SequentialRunner._collect_orders_from_normal_agents" [.ref 1, .ref 4] (rSt sh)
      = collectOut (sh.collectModel capN)

macro "collect_finish " sh:ident : tactic =>
  `(tactic| (all_goals intro h
             all_goals simp [BTerm.eval, ITerm.eval, NTerm.eval, rhoRun, Obs.eval, Obs.evalList] at h ⊢
             all_goals simp_all [lt_false_of_le, le_false_of_lt, collectOut, RShape.collectModel, RShape.requests,
               RShape.request, $sh:ident, collect, evCalls, traceCalls, cCall, mkts, mktAddr, agentAddr, logAddr]))

section tree
open Tree BTerm ITerm NTerm

def collectOutO (r : List Ev × Bool × List (Nat × List Request)) : Obs :=
  if r.2.1 then .tuple [.tuple (quoteList (traceCalls 4 r.1)),
                        .tuple (r.2.2.map fun b => .tuple (b.2.map fun q => Obs.ref q.ref))]
  else .err (.raise "ValueError")

theorem collectOutO_eval (ρ : Rho K) (r : List Ev × Bool × List (Nat × List Request)) :
    (collectOutO r).eval ρ = collectOut r := by
  unfold collectOutO collectOut
  split <;> simp [Obs.eval, Obs.evalList, Obs.evalList_map, quoteList_traceCalls]

/-- `_collect_orders_from_normal_agents` on the shape: the cap of the normal agents, then placement; at
the leaf the model's `collect`.  With placement off the first non-empty answer is refused. -/
def collectT (sh : RShape) : Tree Obs :=
  askCap (atom 2) 0 sh.nperm.length fun cap =>
    let r := sh.collectModel cap
    node (atom 1) (fun _ => leaf (collectOutO r))
      (fun _ => leaf (if r.2.1 && r.2.2.isEmpty then collectOutO r else .err (.raise "AssertionError")))

end tree

theorem collect_agree : ∀ sh ∈ [cA, cB, cC], agreesP collectObs (rEnv sh) FUEL
    "SequentialRunner._collect_orders_from_normal_agents" [.ref 1, .ref 4] (rSt sh) (collectT sh) = true := by
  decide +kernel

theorem collectT_denote (sh : RShape) (placement flag : Bool) (rate : K) (draw : Nat → K) (capH capN : Int) :
    ((collectT sh).denote (rhoRun placement flag rate draw capH capN)).eval (rhoRun placement flag rate draw capH capN)
      = if placement || (sh.collectModel capN).2.1 && (sh.collectModel capN).2.2.isEmpty then
          collectOut (sh.collectModel capN)
        else .err (.raise "AssertionError") := by
  have hc := collect_congr false (fun a => sh.requests (sh.answer a)) sh.nperm 0
    ((capLike_clamp capN sh.nperm.length).mono (Nat.le_of_eq (Nat.zero_add _)))
  simp only [collectT, py_eval, RShape.collectModel, hc]
  cases placement
  · simp only [Bool.false_eq_true, if_false, Bool.false_or]
    split <;> simp [py_eval, collectOutO_eval]
  · simp [collectOutO_eval]

/-- on these shapes `_collect_orders_from_normal_agents` does what the model's `collect` says; with
placement off it refuses the first non-empty answer -/
theorem collect_src {sh : RShape} (hs : sh ∈ [cA, cB, cC])
    (placement flag : Bool) (rate : K) (draw : Nat → K) (capH capN : Int) :
    resultG collectObs (rhoRun placement flag rate draw capH capN) (rEnv sh) FUEL
        "SequentialRunner._collect_orders_from_normal_agents" [.ref 1, .ref 4] (rSt sh)
      = if placement || (sh.collectModel capN).2.1 && (sh.collectModel capN).2.2.isEmpty then
          collectOut (sh.collectModel capN)
        else .err (.raise "AssertionError") := by
  rw [← collectT_denote sh placement flag rate draw capH capN]
  exact resultG_eq_of_agreeP _ (collect_agree sh hs)

theorem collectSpec_of_mem {sh : RShape} (hs : sh ∈ [cA, cB, cC]) : CollectSpec K sh :=
  fun flag rate draw capH capN => collect_src hs true flag rate draw capH capN

theorem collect_src_A : CollectSpec K cA := collectSpec_of_mem (by simp)

theorem collect_src_B : CollectSpec K cB := collectSpec_of_mem (by simp)

theorem collect_src_C : CollectSpec K cC := collectSpec_of_mem (by simp)

/-- with placement switched off, the first non-empty answer is refused -/
theorem collect_src_placement_off (flag : Bool) (rate : K) (draw : Nat → K) (capH capN : Int) (hc : 0 < capN) :
    resultG collectObs (rhoRun false flag rate draw capH capN) (rEnv cA) FUEL
        "SequentialRunner._collect_orders_from_normal_agents" [.ref 1, .ref 4] (rSt cA)
      = .err (.raise "AssertionError") := by
  rw [collect_src (sh := cA) (by simp)]
  simp [RShape.collectModel, collect, cA, RShape.requests, RShape.request, not_le.2 hc]

end Pams.Src
