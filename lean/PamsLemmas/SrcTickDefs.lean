/-
`Market._update_time` as it stands in /repo (translated: `PamsGen.Code`, with `OrderBook._set_time`,
`_check_expired_orders` — comprehensions over the expiry index, `list.remove`, `heapify`, `dict.pop` —)
against the model `Market.tick` — setting and vocabulary.

Shape of the state: market 0 at time 0 with two pre-allocated slots per series; the buy queue holds
`a` (address 1) in front of `c` (address 3), each with or without a time-to-live; the expiry index has
one bucket per order with a time-to-live (keys: int atoms 15 and 35, valued `placedAt + ttl`); the sell
side is empty.  `_fill_until` (storage growth) is an extern call that changes nothing here.
-/
import PamsLemmas.SrcMarketDefs

namespace Pams.Src
open Pams Pams.Py

variable {K : Type} [LinearOrder K] [NumOpsC K]

def tickBook (ta tc : Bool) : String → Option Val
  | "__class__" => some (.str "OrderBook")
  | "priority_queue" => some (.list [.ref 1, .ref 3])
  | "is_buy" => some (.bool (.lit true))
  | "time" => some (.int (.lit 0))
  | "expire_time_list" =>
    some (.dict ((if ta then [Val.int (.atom 15)] else []) ++ (if tc then [Val.int (.atom 35)] else []))
                ((if ta then [Val.list [.ref 1]] else []) ++ (if tc then [Val.list [.ref 3]] else [])))
  | _ => none

def tickMarket (hasLast hasMid : Bool) : String → Option Val
  | "__class__" => some (.str "Market")
  | "market_id" => some (.int (.lit 0))
  | "_is_running" => some (.bool (.atom 50))
  | "time" => some (.int (.lit 0))
  | "tick_size" => some (.num (.atom 50))
  | "buy_order_book" => some (.ref 6)
  | "sell_order_book" => some (.ref 7)
  | "_next_order_id" => some (.int (.atom 51))
  | "_n_buy_orders" => some (.list [.int (.atom 52), .int (.lit 0)])
  | "_n_sell_orders" => some (.list [.int (.atom 53), .int (.lit 0)])
  | "_executed_volumes" => some (.list [.int (.atom 54), .int (.lit 0)])
  | "_executed_total_prices" => some (.list [.num (.atom 51), .num (.ofInt (.lit 0))])
  | "_last_executed_prices" => some (.list [optNum hasLast 52, .none])
  | "_mid_prices" => some (.list [optNum hasMid 54, .none])
  | "_market_prices" => some (.list [.num (.atom 53), .none])
  | "_fundamental_prices" => some (.list [.num (.atom 55), .none])
  | "logger" => some .none
  | _ => none

def tickHeap (ta tc hasLast hasMid : Bool) : Nat → String → Option Val :=
  fun addr =>
    if addr = 1 then mOrder 1 true true ta else if addr = 3 then mOrder 3 true true tc
    else if addr = 5 then tickMarket hasLast hasMid else if addr = 6 then tickBook ta tc
    else if addr = 7 then bookObj false []
    else if addr = 100 then kindObj 0 else if addr = 101 then kindObj 1 else fun _ => none

def stTick (ta tc hasLast hasMid : Bool) : St := { heap := tickHeap ta tc hasLast hasMid, calls := [] }

/-- `_fill_until` grows the storage; with two slots allocated it has nothing to do -/
def tickExt : Ext := fun st _ fn _ =>
  if fn = "_fill_until" then some (.none, st) else none

def tickEnv : Env := { prog := PamsGen.Code.prog, globals := globals, ext := tickExt }

def slot1 (st : St) (f : String) : Obs :=
  match st.heap 5 f with
  | some (.list [_, v]) => Obs.ofVal v
  | _ => .other

/-- what is observed of a clock step: the clocks, the buy queue and the keys of its expiry index, and
the new slot of every series -/
def tickObs : Except Py.Err (Val × St) → Obs
  | .ok (_, st) =>
    .tuple [ Obs.ofOpt (st.heap 5 "time"), Obs.ofOpt (st.heap 6 "time"), Obs.ofOpt (st.heap 7 "time"),
             listObs st 6 "priority_queue",
             (match st.heap 6 "expire_time_list" with | some (.dict ks _) => .tuple (ks.map Obs.ofVal) | _ => .other),
             slot1 st "_last_executed_prices", slot1 st "_mid_prices", slot1 st "_market_prices",
             slot1 st "_fundamental_prices", slot1 st "_executed_volumes", slot1 st "_n_buy_orders",
             slot1 st "_n_sell_orders" ]
  | .error e => .err e

def tickPaths (ta tc hasLast hasMid : Bool) :=
  obsPathsPG tickObs tickEnv XFUEL "Market._update_time" [.ref 5, .num (.atom 56)] (stTick ta tc hasLast hasMid)

/-- valuation: the two resting orders, the market, the next fundamental price; the expiry keys are
`placedAt + ttl` -/
def rhoTick (m : Market K) (a c : Order K) (fund dflt : K) : Rho K :=
  { i := fun k =>
      if k = 10 then a.id else if k = 11 then a.placedAt else if k = 12 then a.agent else if k = 13 then a.vol
      else if k = 14 then (a.ttl.getD 0 : Nat) else if k = 15 then (a.placedAt + a.ttl.getD 0 : Nat)
      else if k = 30 then c.id else if k = 31 then c.placedAt else if k = 32 then c.agent else if k = 33 then c.vol
      else if k = 34 then (c.ttl.getD 0 : Nat) else if k = 35 then (c.placedAt + c.ttl.getD 0 : Nat)
      else if k = 51 then m.nextId else if k = 52 then m.cur.nBuy else if k = 53 then m.cur.nSell
      else if k = 54 then m.cur.execVol else 0
    n := fun k =>
      if k = 1 then a.price.getD dflt else if k = 3 then c.price.getD dflt
      else if k = 51 then m.cur.turnover else if k = 52 then m.cur.last.getD dflt
      else if k = 53 then m.cur.market.getD dflt else if k = 54 then m.cur.mid.getD dflt
      else if k = 55 then m.cur.fund.getD dflt else if k = 56 then fund else dflt
    b := fun k => if k = 50 then m.running else false }

/-- the observation `tickObs` of the model's `Market.tick` -/
def modelTickObs (a c : Order K) (res : Market K × List (ExpiryLog K)) : CObs K :=
  let m := res.1
  let ref (o : Order K) : CObs K := if o.id = a.id then .ref 1 else .ref 3
  let key (o : Order K) : List (CObs K) := match o.ttl with | some t => [.int ((o.placedAt + t : Nat) : Int)] | none => []
  .tuple [ .int m.time, .int m.time, .int m.time, .tuple (m.buys.map ref), .tuple (m.buys.flatMap key),
           cOpt m.cur.last, cOpt m.cur.mid, cOpt m.cur.market, cOpt m.cur.fund,
           .int m.cur.execVol, .int m.cur.nBuy, .int m.cur.nSell ]
  where _unused := c

end Pams.Src
