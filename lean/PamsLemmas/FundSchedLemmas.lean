/-
Lemmas about the regeneration bookkeeping of the fundamentals (PamsModel/FundSched.lean): the
invariant "every step carries, or will be generated with, the parameter set in force at that step"
holds initially and is preserved by reads, setter calls and admissible shocks.
-/
import PamsModel.FundSched

namespace Pams.FundS
variable {P : Type}

theorem sched_snoc (p0 : P) (h : List (Nat × P)) (t : Nat) (x : P) (u : Nat) :
    sched p0 (h ++ [(t, x)]) u = if t < u then x else sched p0 h u := by
  by_cases hu : t < u <;> simp [sched, hu]

theorem sched_after_last (p0 : P) (h : List (Nat × P)) (u : Nat)
    (hl : ∀ c, h.getLast? = some c → c.1 < u) : sched p0 h u = (h.getLast?.map (·.2)).getD p0 := by
  rcases List.eq_nil_or_concat h with rfl | ⟨h', ⟨t, x⟩, rfl⟩
  · rfl
  · have : t < u := hl (t, x) (by simp)
    simp [sched_snoc, this]

theorem readLoop_eq_settleLoop (time : Nat) :
    ∀ (fuel : Nat) (s : St P), readLoop fuel time s = settleLoop fuel (time + 1) s
  | 0, _ => rfl
  | fuel + 1, s => by
    simp only [readLoop, settleLoop, readLoop_eq_settleLoop time fuel, ge_iff_le, Nat.lt_add_one_iff]

theorem read_eq_settleLoop (s : St P) (time : Nat) : s.read time = settleLoop (time + 1) (time + 1) s :=
  readLoop_eq_settleLoop time _ s

theorem settleLoop_rec {Q : St P → Prop} (hgen : ∀ s, Q s → Q s.gen) (time : Nat) :
    ∀ (fuel : Nat) (s : St P), Q s → Q (settleLoop fuel time s)
  | 0, _, hq => hq
  | fuel + 1, s, hq => by
    unfold settleLoop
    split
    · exact settleLoop_rec hgen time fuel s.gen (hgen s hq)
    · exact hq

theorem settleLoop_cur (time fuel : Nat) (s : St P) : (settleLoop fuel time s).cur = s.cur :=
  settleLoop_rec (Q := fun s' => s'.cur = s.cur) (fun _ h => h) time fuel s rfl

theorem settleLoop_chunk (time : Nat) : ∀ (fuel : Nat) (s : St P), (settleLoop fuel time s).chunk = s.chunk :=
  fun fuel s => settleLoop_rec (Q := fun s' => s'.chunk = s.chunk) (fun _ h => h) time fuel s rfl

theorem settleLoop_reaches (time : Nat) :
    ∀ (fuel : Nat) (s : St P), 1 ≤ s.chunk → time ≤ s.g + fuel → time ≤ (settleLoop fuel time s).g
  | 0, _, _, h => h
  | fuel + 1, s, hc, h => by
    unfold settleLoop
    split
    · exact settleLoop_reaches time fuel s.gen hc (by show time ≤ s.g + s.chunk + fuel; omega)
    · omega

theorem settle_reaches (s : St P) (t : Nat) (hc : 1 ≤ s.chunk) : t ≤ (s.settle t).g :=
  settleLoop_reaches t (t + 1) s hc (by omega)

/-- the parameter set a step was generated with if it is final, and the one it would be generated
with now (the current one) if it is not: a generation round leaves this unchanged -/
def St.view (s : St P) (u : Nat) : Option P := if u ≤ s.g then s.prov[u]? else some s.cur

theorem view_final (s : St P) {u : Nat} (hu : u ≤ s.g) : s.view u = s.prov[u]? := if_pos hu

theorem view_beyond (s : St P) {u : Nat} (hu : s.g < u) : s.view u = some s.cur :=
  if_neg (Nat.not_le.mpr hu)

theorem gen_len {s : St P} (hl : s.g < s.prov.length) : s.gen.g < s.gen.prov.length := by
  simp only [St.gen, List.length_append, List.length_take, List.length_replicate]
  omega

theorem view_gen {s : St P} (hl : s.g < s.prov.length) (u : Nat) : s.gen.view u = s.view u := by
  have hm : min (s.g + 1) s.prov.length = s.g + 1 := by omega
  simp only [St.view, St.gen, List.getElem?_append, List.length_take, hm, List.getElem?_take,
    List.getElem?_replicate]
  by_cases h1 : u ≤ s.g
  · rw [if_pos h1, if_pos (by omega), if_pos (by omega), if_pos (by omega)]
  · by_cases h2 : u ≤ s.g + s.chunk
    · rw [if_neg h1, if_pos h2, if_neg (by omega), if_pos (by omega)]
    · rw [if_neg h1, if_neg h2]

theorem gen_prefix {s : St P} {u : Nat} (hu : u ≤ s.g) (hl : s.g < s.prov.length) :
    s.gen.prov[u]? = s.prov[u]? := by
  rw [← view_final s hu, ← view_gen hl, view_final]
  exact Nat.le_add_right_of_le hu

theorem settleLoop_prefix {time u fuel : Nat} {s : St P} (hl : s.g < s.prov.length) (hu : u ≤ s.g) :
    (settleLoop fuel time s).prov[u]? = s.prov[u]? :=
  (settleLoop_rec (Q := fun s' => s'.g < s'.prov.length ∧ u ≤ s'.g ∧ s'.prov[u]? = s.prov[u]?)
    (fun s' ⟨h1, h2, h3⟩ => ⟨gen_len h1, Nat.le_add_right_of_le h2, (gen_prefix h2 h1).trans h3⟩)
    time fuel s ⟨hl, hu, rfl⟩).2.2

/-- the generator state `s` after the parameter changes `h`: read at any time from 1 on it shows the
schedule `sched p0 h` -/
structure Inv (p0 : P) (s : St P) (h : List (Nat × P)) : Prop where
  len : s.g < s.prov.length
  chunk : 1 ≤ s.chunk
  view : ∀ u, 1 ≤ u → s.view u = some (sched p0 h u)

theorem inv_init (p0 : P) (chunk : Nat) (hc : 1 ≤ chunk) : Inv p0 (init p0 chunk) [] :=
  ⟨Nat.zero_lt_one, hc, fun _ h1 => view_beyond _ h1⟩

/-- an operation the invariant is stated for: any read, any setter call, a shock at a final time
with no later-dated change pending -/
def Op.admissible (s : St P) (h : List (Nat × P)) : Op P → Prop
  | .read _ => True
  | .change _ _ => True
  | .shock t => t ≤ s.g ∧ ∀ c, h.getLast? = some c → c.1 ≤ t

def admissibleRun : St P → List (Nat × P) → List (Op P) → Prop
  | _, _, [] => True
  | s, h, op :: ops => op.admissible s h ∧ admissibleRun (s.step op) (histStep s.cur h op) ops

section
variable {p0 : P} {s : St P} {h : List (Nat × P)} (hi : Inv p0 s h)
include hi

theorem inv_gen : Inv p0 s.gen h :=
  ⟨gen_len hi.len, hi.chunk, fun u h1 => (view_gen hi.len u).trans (hi.view u h1)⟩

theorem inv_settleLoop (time fuel : Nat) : Inv p0 (settleLoop fuel time s) h :=
  settleLoop_rec (Q := (Inv p0 · h)) (fun _ => inv_gen) time fuel s hi

theorem inv_change (t : Nat) (f : P → P) : Inv p0 (s.change t f) (h ++ [(t, f s.cur)]) := by
  have hs : Inv p0 (s.settle t) h := inv_settleLoop hi t (t + 1)
  have hr : t ≤ (s.settle t).g := settle_reaches s t hi.chunk
  refine ⟨Nat.lt_of_le_of_lt hr hs.len, hs.chunk, fun u h1 => ?_⟩
  rw [sched_snoc]
  by_cases hu : t < u
  · rw [if_pos hu, ← settleLoop_cur t (t + 1) s]
    exact view_beyond (s.change t f) hu
  · rw [if_neg hu, ← hs.view u h1, view_final (s.settle t) (by omega)]
    exact view_final (s.change t f) (Nat.not_lt.mp hu)

/-- a shock at `t` keeps the invariant when everything up to `t` is final and no change dated later
than `t` is pending (otherwise that change would apply from `t` on: the parameter store is not
time-indexed) -/
theorem inv_shock (t : Nat) (ht : t ≤ s.g) (hl : ∀ c, h.getLast? = some c → c.1 ≤ t) :
    Inv p0 (s.shock t) h := by
  refine ⟨Nat.lt_of_le_of_lt ht hi.len, hi.chunk, fun u h1 => ?_⟩
  by_cases hu : u ≤ t
  · rw [← hi.view u h1, view_final s (Nat.le_trans hu ht)]
    exact view_final (s.shock t) hu
  · -- no call is dated after `t`: the schedule at `u` is the one beyond the regeneration point before the shock
    have hc : ∀ v, t < v → sched p0 h v = (h.getLast?.map (·.2)).getD p0 := fun v hv =>
      sched_after_last p0 h v fun c hc => Nat.lt_of_le_of_lt (hl c hc) hv
    rw [hc u (Nat.not_le.mp hu), ← hc (s.g + 1) (by omega), ← hi.view _ (by omega),
      view_beyond s (Nat.lt_succ_self _)]
    exact view_beyond (s.shock t) (Nat.not_le.mp hu)

theorem inv_step (op : Op P) (ha : op.admissible s h) : Inv p0 (s.step op) (histStep s.cur h op) := by
  cases op with
  | read time =>
    show Inv p0 (s.read time) h
    exact read_eq_settleLoop s time ▸ inv_settleLoop hi _ _
  | change t f => exact inv_change hi t f
  | shock t => exact inv_shock hi t ha.1 ha.2

end

theorem inv_run {p0 : P} : ∀ (ops : List (Op P)) {s : St P} {h : List (Nat × P)}, Inv p0 s h →
    admissibleRun s h ops → Inv p0 (run s h ops).1 (run s h ops).2
  | [], _, _, hi, _ => hi
  | op :: ops, _, _, hi, ha => inv_run ops (inv_step hi op ha.1) ha.2

end Pams.FundS
