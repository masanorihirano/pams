/-
`Logger.write` / `bulk_write` / `write_and_direct_process` / `bulk_write_and_direct_process` / `_process`
(which runs `process`) and `Log.read_and_write` / `read_and_write_with_direct_process` as they stand in /repo (translated:
`PamsGen.Code`) are the steps of the logger model `Pams.Logger` — by symbolic execution.

Setting: the logger at address 8 holds a queue of pending records; records are objects at 30 … 39, one of each
of the ten record classes (`recClass`); the ten `process_*_log` methods are extern: a call of one of them
is a *delivery*.  Observed: the queue afterwards and the deliveries in order (method, record).
-/
import PamsLemmas.Agree
import PamsGen.Code
import PamsModel.Logger
import PamsLemmas.SrcOrder

namespace Pams.Src
open Pams Pams.Py Pams.Logger

variable {K : Type} [LinearOrder K] [NumOpsC K]

/-- the class of the record at address 30 + k, and the method that delivers it -/
def recClass : Nat → String × String
  | 0 => ("OrderLog", "process_order_log")
  | 1 => ("CancelLog", "process_cancel_log")
  | 2 => ("ExpirationLog", "process_expiration_log")
  | 3 => ("ExecutionLog", "process_execution_log")
  | 4 => ("SimulationBeginLog", "process_simulation_begin_log")
  | 5 => ("SimulationEndLog", "process_simulation_end_log")
  | 6 => ("SessionBeginLog", "process_session_begin_log")
  | 7 => ("SessionEndLog", "process_session_end_log")
  | 8 => ("MarketStepBeginLog", "process_market_step_begin_log")
  | _ => ("MarketStepEndLog", "process_market_step_end_log")

def logHeap (pending : List Nat) : Nat → String → Option Val :=
  fun addr =>
    if addr = 8 then (fun f => match f with
      | "__class__" => some (.str "Logger")
      | "pending_logs" => some (.list (pending.map Val.ref))
      | _ => none)
    else if 30 ≤ addr ∧ addr < 40 then (fun f => match f with
      | "__class__" => some (.str (recClass (addr - 30)).1)
      | _ => none)
    else fun _ => none

def logSt (pending : List Nat) : St := { heap := logHeap pending, calls := [] }

def logExt : Ext := fun st recv fn args =>
  match recv, args with
  | .ref 8, [.ref _] => if fn.startsWith "process_" ∧ fn.endsWith "_log" then some (.none, st) else none
  | _, _ => none

def logGlobals : String → Option Val := fun x =>
  if x.endsWith "Log" then some (.str x) else globals x

def logEnv : Env := { prog := PamsGen.Code.prog, globals := logGlobals, ext := logExt, mro := PamsGen.Code.mroOf }

/-- the queue afterwards and the deliveries -/
def logObs : Except Py.Err (Val × St) → Obs
  | .ok (_, st) =>
    .tuple [match st.heap 8 "pending_logs" with | some (.list l) => .tuple (l.map Obs.ofVal) | _ => .absent,
            .tuple (st.calls.reverse.map (fun c => .tuple [.str c.fn, Obs.ofVal c.recv, .tuple (c.args.map Obs.ofVal)]))]
  | .error e => .err e

/-- a model state as observed: the queue, and the records delivered *by this operation* -/
def lstateObs (s : LState Nat) (before : Nat) : CObs K :=
  .tuple [.tuple (s.pending.map CObs.ref),
          .tuple ((s.delivered.drop before).map (fun r =>
            .tuple [.str (recClass (r - 30)).2, .ref 8, .tuple [.ref r]]))]

/-- the queue used in the statements: an order record, an execution record, an end-of-step record -/
def q3 : List Nat := [30, 33, 39]
/-- one record of every class -/
def q10 : List Nat := [30, 31, 32, 33, 34, 35, 36, 37, 38, 39]

/-- a model state that started with nothing delivered, as `logObs` shows it -/
def lstateO (s : LState Nat) : Obs :=
  .tuple [.tuple (s.pending.map Obs.ref),
          .tuple (s.delivered.map fun r => .tuple [.str (recClass (r - 30)).2, .ref 8, .tuple [.ref r]])]

theorem lstateO_eval (ρ : Rho K) (s : LState Nat) : (lstateO s).eval ρ = lstateObs s 0 := by
  simp only [lstateO, lstateObs, Obs.eval, Obs.evalList, Obs.evalList_map, List.drop_zero]

theorem run_delivered {α : Type} (ops : List (LOp α)) : ∀ q d e : List α,
    run { pending := q, delivered := d ++ e } ops =
      { pending := (run { pending := q, delivered := e } ops).pending,
        delivered := d ++ (run { pending := q, delivered := e } ops).delivered } := by
  induction ops with
  | nil => intro q d e; rfl
  | cons op ops ih =>
    intro q d e
    cases op <;> simp only [Logger.run, List.foldl_cons, step, List.append_assoc] at ih ⊢ <;> exact ih _ _ _

/-- the calls checked: method, arguments, the queue before, and the model operations they stand for -/
def logCalls : List (String × List Val × List Nat × List (LOp Nat)) :=
  [("Logger.write", [.ref 8, .ref 38], q3, [.write 38]),
   ("Log.read_and_write", [.ref 38, .ref 8], q3, [.write 38]),
   ("Logger.bulk_write", [.ref 8, .list [.ref 31, .ref 36]], q3, [.bulkWrite [31, 36]]),
   ("Logger.write_and_direct_process", [.ref 8, .ref 38], q3, [.direct 38]),
   ("Log.read_and_write_with_direct_process", [.ref 39, .ref 8], q3, [.direct 39]),
   ("Logger.bulk_write_and_direct_process", [.ref 8, .list [.ref 31, .ref 36]], q3, [.direct 31, .direct 36]),
   ("Logger._process", [.ref 8], q3, [.flush]),
   ("Logger._process", [.ref 8], q10, [.flush]),
   ("Logger._process", [.ref 8], [], [.flush])]

theorem logger_agree : ∀ c ∈ logCalls,
    agreesP logObs logEnv FUEL c.1 c.2.1 (logSt c.2.2.1)
      (Tree.leaf (lstateO (run { pending := c.2.2.1, delivered := [] } c.2.2.2))) = true := by
  decide +kernel

/-- **the logger's methods are the model's operations**: `write`, `bulk_write` (and `Log.read_and_write`)
queue; `write_and_direct_process` (and `Log.read_and_write_with_direct_process`,
`bulk_write_and_direct_process`) deliver at once, by the method of the record's class, and leave the queue
alone; `_process` delivers every pending record once, in queue order, by the method of its class (all ten
classes), and empties the queue -/
theorem logger_src (ρ : Rho K) (d : List Nat) : ∀ c ∈ logCalls,
    resultG logObs ρ logEnv FUEL c.1 c.2.1 (logSt c.2.2.1)
      = lstateObs (run { pending := c.2.2.1, delivered := d } c.2.2.2) d.length := by
  intro c hc
  rw [resultG_eq_of_agreeP _ (logger_agree c hc), Tree.denote, lstateO_eval]
  have h := run_delivered c.2.2.2 c.2.2.1 d []
  rw [List.append_nil] at h
  simp only [h, lstateObs, List.drop_left, List.drop_zero]

end Pams.Src
