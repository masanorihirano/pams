/-
`Market._cancel_order` of the current source = the model's `Market.cancel` (see SrcCancelDefs.lean for
the setting), by agreement of decision trees: every path of the symbolic run agrees with the tree
`cancelT`, `cancelT` denotes the spelled-out cancellation `canceledObs`, and so does the model.
-/
import PamsLemmas.SrcCancelDefs

namespace Pams.Src
open Pams Pams.Py
variable {K : Type}

section
variable (m : Market K) (a c d : Order K) (x : K)
@[py_eval] theorem rhoCancel_i10 : (rhoCancel m a c d x).i 10 = a.id := rfl
@[py_eval] theorem rhoCancel_i11 : (rhoCancel m a c d x).i 11 = a.placedAt := rfl
@[py_eval] theorem rhoCancel_i12 : (rhoCancel m a c d x).i 12 = a.agent := rfl
@[py_eval] theorem rhoCancel_i13 : (rhoCancel m a c d x).i 13 = a.vol := rfl
@[py_eval] theorem rhoCancel_i30 : (rhoCancel m a c d x).i 30 = c.id := rfl
@[py_eval] theorem rhoCancel_n1 : (rhoCancel m a c d x).n 1 = a.price.getD x := rfl
@[py_eval] theorem rhoCancel_n3 : (rhoCancel m a c d x).n 3 = c.price.getD x := rfl
@[py_eval] theorem rhoCancel_n4 : (rhoCancel m a c d x).n 4 = d.price.getD x := rfl
@[py_eval] theorem rhoCancel_n53 : (rhoCancel m a c d x).n 53 = m.cur.market.getD x := rfl
@[py_eval] theorem rhoCancel_b50 : (rhoCancel m a c d x).b 50 = m.running := rfl
end

variable [LinearOrder K] [NumOpsC K]

/-- the side of the order `a` to cancel, `c` being the other order of that side -/
def Pos.book (a c : Order K) : Pos → List (Order K)
  | .alone => [a]
  | .top => [a, c]
  | .second => [c, a]
  | .goneEmpty => []
  | .goneOther => [c]

/-- **a cancellation of `a`, spelled out** (what `cancelObs` shows of it) when `own` is what it leaves on
the side of `a` (at most the order at address 3) and `d` is the opposite side: the order is marked, the
cancel stamped with the time, mid-quote and market price are those of the new book, and the log
carries the order's id, times, owner, side, *current* volume, price and ttl. -/
def canceledObs (m : Market K) (a d : Order K) (own : List (Order K)) : CObs K :=
  let q : List (CObs K) := own.map (fun _ => .ref 3)
  let mid := midOf (srcOps K) (if a.isBuy then own else [d]) (if a.isBuy then [d] else own)
  .tuple [.bool true, .int m.time, .tuple (if a.isBuy then q else [.ref 4]), .tuple (if a.isBuy then [.ref 4] else q),
          .tuple [cOpt mid], .tuple [cOpt (marketRule m.running m.cur.last mid m.cur.market)],
          .tuple [.int a.id, .int 0, .int m.time, .int a.placedAt, .int a.agent, .bool a.isBuy, .int a.vol,
                  cOpt a.price, cOptNat a.ttl]]

/-! ### the cancellation as a decision tree over the atoms of `stCancel`

`cancelPaths` is pruned syntactically only: `c == a`, `a == c` and the repetitions of either are
conditions of their own there, and paths that contradict themselves remain.  So the tree asks what the
source asks, in its order (`order == queue[0]`, `heappop` and `assert x == order`, `list.remove`);
with distinct ids every `eqT` goes to its `no` branch (`eqT_denote_ne`). -/
section tree
open ITerm NTerm BTerm Tree

/-- the queue `q` on the side of the cancelled order, the mid-quote `mid`, the market price `mk` -/
def doneT (isBuy limit : Bool) (q : List Obs) (mid mk : Obs) : Tree Obs :=
  leaf (.tuple [.bool (lit true), .int (lit 0), .tuple (if isBuy then q else [.ref 4]),
    .tuple (if isBuy then [.ref 4] else q), .tuple [mid], .tuple [mk],
    .tuple [.int (atom 10), .int (lit 0), .int (lit 0), .int (atom 11), .int (atom 12), .bool (lit isBuy),
            .int (atom 13), Obs.ofVal (optNum limit 1), .none]])

/-- `_update_market_price` and the log, the order at address `k` (or none) being left on the side -/
def refreshT (isBuy limit : Bool) : Option Nat → Tree Obs
  | none => doneT isBuy limit [] .none (.num (atom 53))
  | some k =>
    let mid := div (if isBuy then add (atom 4) (atom k) else add (atom k) (atom 4)) (ofInt (lit 2))
    divT (numLit 2) <| node (BTerm.atom 50) (fun _ => doneT isBuy limit [.ref k] (.num mid) (.num mid))
      (fun _ => doneT isBuy limit [.ref k] (.num mid) (.num (atom 53)))

/-- `OrderBook.cancel` position by position, then `refreshT`; the order to cancel is the object at address 1, the
other order of its side (a limit order) the one at 3.  `goneOther`: `order in queue` is
`c == a`.  `top`: `heappop` takes `c` if `c < a`, and `assert x == order` compares it with `a`.
`second`: `_remove` pops if `a == c` (`a` if `a < c`, else `c`, asserted equal to `a`), and else
removes the first item equal to `a`. -/
def cancelT (isBuy limit : Bool) : Pos → Tree Obs
  | .alone | .goneEmpty => refreshT isBuy limit none
  | .goneOther => eqT (ordAt 3 true) (ordAt 1 limit) (refreshT isBuy limit none) (refreshT isBuy limit (some 3))
  | .top =>
    ltT isBuy (ordAt 3 true) (ordAt 1 limit) (eqT (ordAt 3 true) (ordAt 1 limit) (refreshT isBuy limit (some 1))
      (raiseT "AssertionError"))
      (refreshT isBuy limit (some 3))
  | .second =>
    eqT (ordAt 1 limit) (ordAt 3 true)
      (ltT isBuy (ordAt 1 limit) (ordAt 3 true) (refreshT isBuy limit (some 3))
        (eqT (ordAt 3 true) (ordAt 1 limit) (refreshT isBuy limit (some 1)) (raiseT "AssertionError")))
      (eqT (ordAt 3 true) (ordAt 1 limit) (refreshT isBuy limit (some 1)) (refreshT isBuy limit (some 3)))
end tree

theorem cancel_agree : ∀ isBuy limit : Bool, ∀ pos ∈ [Pos.alone, .top, .second, .goneEmpty, .goneOther],
    agreesP cancelObs env XFUEL "Market._cancel_order" [.ref 5, .ref 2] (stCancel isBuy limit pos)
      (cancelT isBuy limit pos) = true := by
  decide +kernel

section denote
variable (m : Market K) (a c d : Order K) (x pc pd mp : K)

theorem refreshT_none_denote (hta : a.ttl = none) (ht : m.time = 0) (hl : m.cur.last = none)
    (hmk : m.cur.market = some mp) :
    ((refreshT a.isBuy a.price.isSome none).denote (rhoCancel m a c d x)).eval (rhoCancel m a c d x) =
      canceledObs m a d [] := by
  cases ha : a.isBuy <;> cases hr : m.running <;> rcases hpa : a.price with _ | pa <;>
    simp [refreshT, doneT, canceledObs, midOf, marketRule, Book.bestPrice, cOpt, cOptNat, optNum, Obs.ofVal, py_eval,
      ha, hr, hpa, hta, ht, hl, hmk]

theorem refreshT_some_denote (hpc : c.price = some pc) (hpd : d.price = some pd) (hta : a.ttl = none)
    (ht : m.time = 0) (hl : m.cur.last = none) (hmk : m.cur.market = some mp)
    (h2 : (NumOpsC.ofInt 2 : K) ≠ NumOpsC.ofInt 0) :
    ((refreshT a.isBuy a.price.isSome (some 3)).denote (rhoCancel m a c d x)).eval (rhoCancel m a c d x) =
      canceledObs m a d [c] := by
  cases ha : a.isBuy <;> cases hr : m.running <;> rcases hpa : a.price with _ | pa <;>
    simp [refreshT, doneT, canceledObs, midOf, marketRule, Book.bestPrice, srcOps, cOpt, cOptNat, optNum, Obs.ofVal,
      py_eval, ha, hr, hpa, hpc, hpd, hta, ht, hl, hmk, h2]

theorem cancelT_denote (pos : Pos) (hc : c.isBuy = a.isBuy) (hpc : c.price = some pc) (hpd : d.price = some pd)
    (hac : a.id ≠ c.id) (hta : a.ttl = none) (ht : m.time = 0) (hl : m.cur.last = none)
    (hmk : m.cur.market = some mp) (h2 : (NumOpsC.ofInt 2 : K) ≠ NumOpsC.ofInt 0)
    (hg : pos = .top → c.lt a = false) :
    ((cancelT a.isBuy a.price.isSome pos).denote (rhoCancel m a c d x)).eval (rhoCancel m a c d x) =
      canceledObs m a d (Book.remove a.id (pos.book a c)) := by
  have h31 : (ordAt 3 true).id.eval (rhoCancel m a c d x) ≠ (ordAt 1 a.price.isSome).id.eval (rhoCancel m a c d x) := by
    simpa [ordAt, py_eval] using hac.symm
  have hlt := fun yes no : Tree Obs => ltT_denote (ρ := rhoCancel m a c d x) (ta := ordAt 3 true)
    (tb := ordAt 1 a.price.isSome) (a := c) (b := a) ⟨by simp [ordAt, optAtom, py_eval, hpc], rfl, rfl⟩
    ⟨optAtom_eval _ _ 1 (d := x) rfl, rfl, rfl⟩ yes no
  rw [hc] at hlt
  have hnone := refreshT_none_denote m a c d x mp hta ht hl hmk
  have hsome := refreshT_some_denote m a c d x pc pd mp hpc hpd hta ht hl hmk h2
  cases pos
  · simpa [cancelT, Pos.book, Book.remove] using hnone
  · simpa [cancelT, Pos.book, Book.remove, hlt, hg rfl, hac.symm] using hsome
  · simpa [cancelT, Pos.book, Book.remove, eqT_denote_ne h31, eqT_denote_ne h31.symm, hac.symm] using hsome
  · simpa [cancelT, Pos.book, Book.remove] using hnone
  · simpa [cancelT, Pos.book, Book.remove, eqT_denote_ne h31, hac.symm] using hsome
end denote

theorem cancel_model (m : Market K) (a c d : Order K) (gk : Gone) (pos : Pos)
    (hbook : if a.isBuy then m.buys = pos.book a c ∧ m.sells = [d] else m.buys = [d] ∧ m.sells = pos.book a c)
    (hc : c.isBuy = a.isBuy) (hd : d.isBuy = !a.isBuy) (hac : a.id ≠ c.id) (had : a.id ≠ d.id)
    (hg : pos = .goneEmpty ∨ pos = .goneOther → m.gone.find? (fun g => g.1.id = a.id) = some (a, gk)) :
    modelCancelObs a (m.cancel (srcOps K) a.id) = canceledObs m a d (Book.remove a.id (pos.book a c)) := by
  cases pos <;> cases ha : a.isBuy <;> simp only [ha, if_true, Bool.false_eq_true, if_false] at hbook <;>
    simp [canceledObs, modelCancelObs, Market.cancel, Market.refresh, findOrder, Book.remove, Pos.book, hbook.1,
      hbook.2, ha, hc, hd, hac.symm, had.symm, hg]

theorem cancel_src_obs (pos : Pos) (m : Market K) (a c d : Order K) (dflt pc pd mp : K)
    (hta : a.ttl = none) (hc : c.isBuy = a.isBuy) (hpc : c.price = some pc) (hpd : d.price = some pd)
    (ht : m.time = 0) (hl : m.cur.last = none) (hmk : m.cur.market = some mp) (hac : a.id ≠ c.id)
    (h2 : (NumOpsC.ofInt 2 : K) ≠ NumOpsC.ofInt 0) (hg : pos = .top → c.lt a = false) :
    resultG cancelObs (rhoCancel m a c d dflt) env XFUEL "Market._cancel_order" [.ref 5, .ref 2]
        (stCancel a.isBuy a.price.isSome pos)
      = canceledObs m a d (Book.remove a.id (pos.book a c)) := by
  rw [← cancelT_denote m a c d dflt pc pd mp pos hc hpc hpd hac hta ht hl hmk h2 hg]
  exact resultG_eq_of_agreeP _ (cancel_agree _ _ pos (by cases pos <;> simp))

/-- **`Market._cancel_order` of the current source is the model's `Market.cancel`**, for the order `a`
in any position `pos` of its side (`c` the other order there, not outranking `a` when `a` is on top;
`a` recorded in `gone` when it has left the book), either side, limit or market order, all prices,
volumes, ids, times and agents. -/
theorem cancel_src (pos : Pos) (m : Market K) (a c d : Order K) (dflt pc pd mp : K) (gk : Gone)
    (hbook : if a.isBuy then m.buys = pos.book a c ∧ m.sells = [d] else m.buys = [d] ∧ m.sells = pos.book a c)
    (hta : a.ttl = none) (hc : c.isBuy = a.isBuy) (hpc : c.price = some pc) (hd : d.isBuy = !a.isBuy)
    (hpd : d.price = some pd) (ht : m.time = 0) (hl : m.cur.last = none) (hmk : m.cur.market = some mp)
    (hac : a.id ≠ c.id) (had : a.id ≠ d.id) (h2 : (NumOpsC.ofInt 2 : K) ≠ NumOpsC.ofInt 0)
    (hg : match pos with
      | .top => c.lt a = false
      | .goneEmpty | .goneOther => m.gone.find? (fun g => g.1.id = a.id) = some (a, gk)
      | _ => True) :
    resultG cancelObs (rhoCancel m a c d dflt) env XFUEL "Market._cancel_order" [.ref 5, .ref 2]
        (stCancel a.isBuy a.price.isSome pos)
      = modelCancelObs a (m.cancel (srcOps K) a.id) := by
  rw [cancel_model m a c d gk pos hbook hc hd hac had (by rintro (rfl | rfl) <;> exact hg)]
  exact cancel_src_obs pos m a c d dflt pc pd mp hta hc hpc hpd ht hl hmk hac h2 (by rintro rfl; exact hg)

-- the five positions one by one; their statements carry `md`, `hmid` and `hcd`, which nothing uses
set_option linter.unusedVariables false in
/-- **cancelling an order that is the only order of its side** (`cancel_src` at this position) -/
theorem cancel_src_alone (m : Market K) (a c d : Order K) (dflt pc pd md mp : K) (gk : Gone)
    (hbook : if a.isBuy then m.buys = [a] ∧ m.sells = [d] else m.buys = [d] ∧ m.sells = [a])
    (hta : a.ttl = none) (hc : c.isBuy = a.isBuy) (hpc : c.price = some pc) (hd : d.isBuy = !a.isBuy)
    (hpd : d.price = some pd) (ht : m.time = 0) (hl : m.cur.last = none) (hmid : m.cur.mid = some md)
    (hmk : m.cur.market = some mp) (hac : a.id ≠ c.id) (had : a.id ≠ d.id) (hcd : c.id ≠ d.id)
    (h2 : (NumOpsC.ofInt 2 : K) ≠ NumOpsC.ofInt 0) (hg : True) :
    resultG cancelObs (rhoCancel m a c d dflt) env XFUEL "Market._cancel_order" [.ref 5, .ref 2]
        (stCancel a.isBuy a.price.isSome .alone)
      = modelCancelObs a (m.cancel (srcOps K) a.id) :=
  cancel_src .alone m a c d dflt pc pd mp gk hbook hta hc hpc hd hpd ht hl hmk hac had h2 hg

set_option linter.unusedVariables false in
/-- **cancelling an order that is on top of another order `c` of its side (`c` does not outrank it)** (`cancel_src` at this position) -/
theorem cancel_src_top (m : Market K) (a c d : Order K) (dflt pc pd md mp : K) (gk : Gone)
    (hbook : if a.isBuy then m.buys = [a, c] ∧ m.sells = [d] else m.buys = [d] ∧ m.sells = [a, c])
    (hta : a.ttl = none) (hc : c.isBuy = a.isBuy) (hpc : c.price = some pc) (hd : d.isBuy = !a.isBuy)
    (hpd : d.price = some pd) (ht : m.time = 0) (hl : m.cur.last = none) (hmid : m.cur.mid = some md)
    (hmk : m.cur.market = some mp) (hac : a.id ≠ c.id) (had : a.id ≠ d.id) (hcd : c.id ≠ d.id)
    (h2 : (NumOpsC.ofInt 2 : K) ≠ NumOpsC.ofInt 0) (hg : c.lt a = false) :
    resultG cancelObs (rhoCancel m a c d dflt) env XFUEL "Market._cancel_order" [.ref 5, .ref 2]
        (stCancel a.isBuy a.price.isSome .top)
      = modelCancelObs a (m.cancel (srcOps K) a.id) :=
  cancel_src .top m a c d dflt pc pd mp gk hbook hta hc hpc hd hpd ht hl hmk hac had h2 hg

set_option linter.unusedVariables false in
/-- **cancelling an order that is behind another order `c` of its side (the removal is `list.remove` + `heapify`)** (`cancel_src` at this position) -/
theorem cancel_src_second (m : Market K) (a c d : Order K) (dflt pc pd md mp : K) (gk : Gone)
    (hbook : if a.isBuy then m.buys = [c, a] ∧ m.sells = [d] else m.buys = [d] ∧ m.sells = [c, a])
    (hta : a.ttl = none) (hc : c.isBuy = a.isBuy) (hpc : c.price = some pc) (hd : d.isBuy = !a.isBuy)
    (hpd : d.price = some pd) (ht : m.time = 0) (hl : m.cur.last = none) (hmid : m.cur.mid = some md)
    (hmk : m.cur.market = some mp) (hac : a.id ≠ c.id) (had : a.id ≠ d.id) (hcd : c.id ≠ d.id)
    (h2 : (NumOpsC.ofInt 2 : K) ≠ NumOpsC.ofInt 0) (hg : True) :
    resultG cancelObs (rhoCancel m a c d dflt) env XFUEL "Market._cancel_order" [.ref 5, .ref 2]
        (stCancel a.isBuy a.price.isSome .second)
      = modelCancelObs a (m.cancel (srcOps K) a.id) :=
  cancel_src .second m a c d dflt pc pd mp gk hbook hta hc hpc hd hpd ht hl hmk hac had h2 hg

set_option linter.unusedVariables false in
/-- **cancelling an order that is no longer in the book (it left earlier with the volume recorded in `gone`), its side empty**: for either side, limit or market order, all prices, volumes,
ids, times and agents, the current source marks the order, stamps the cancel, leaves the queues, the
mid-quote and the market price, and returns the log exactly as `Market.cancel` of the model says. -/
theorem cancel_src_goneEmpty (m : Market K) (a c d : Order K) (dflt pc pd md mp : K) (gk : Gone)
    (hbook : if a.isBuy then m.buys = [] ∧ m.sells = [d] else m.buys = [d] ∧ m.sells = [])
    (hta : a.ttl = none) (hc : c.isBuy = a.isBuy) (hpc : c.price = some pc) (hd : d.isBuy = !a.isBuy)
    (hpd : d.price = some pd) (ht : m.time = 0) (hl : m.cur.last = none) (hmid : m.cur.mid = some md)
    (hmk : m.cur.market = some mp) (hac : a.id ≠ c.id) (had : a.id ≠ d.id) (hcd : c.id ≠ d.id)
    (h2 : (NumOpsC.ofInt 2 : K) ≠ NumOpsC.ofInt 0) (hg : m.gone.find? (fun g => g.1.id = a.id) = some (a, gk)) :
    resultG cancelObs (rhoCancel m a c d dflt) env XFUEL "Market._cancel_order" [.ref 5, .ref 2]
        (stCancel a.isBuy a.price.isSome .goneEmpty)
      = modelCancelObs a (m.cancel (srcOps K) a.id) :=
  cancel_src .goneEmpty m a c d dflt pc pd mp gk hbook hta hc hpc hd hpd ht hl hmk hac had h2 hg

set_option linter.unusedVariables false in
/-- **cancelling an order that is no longer in the book, another order `c` rests on its side** (`cancel_src` at this position) -/
theorem cancel_src_goneOther (m : Market K) (a c d : Order K) (dflt pc pd md mp : K) (gk : Gone)
    (hbook : if a.isBuy then m.buys = [c] ∧ m.sells = [d] else m.buys = [d] ∧ m.sells = [c])
    (hta : a.ttl = none) (hc : c.isBuy = a.isBuy) (hpc : c.price = some pc) (hd : d.isBuy = !a.isBuy)
    (hpd : d.price = some pd) (ht : m.time = 0) (hl : m.cur.last = none) (hmid : m.cur.mid = some md)
    (hmk : m.cur.market = some mp) (hac : a.id ≠ c.id) (had : a.id ≠ d.id) (hcd : c.id ≠ d.id)
    (h2 : (NumOpsC.ofInt 2 : K) ≠ NumOpsC.ofInt 0) (hg : m.gone.find? (fun g => g.1.id = a.id) = some (a, gk)) :
    resultG cancelObs (rhoCancel m a c d dflt) env XFUEL "Market._cancel_order" [.ref 5, .ref 2]
        (stCancel a.isBuy a.price.isSome .goneOther)
      = modelCancelObs a (m.cancel (srcOps K) a.id) :=
  cancel_src .goneOther m a c d dflt pc pd mp gk hbook hta hc hpc hd hpd ht hl hmk hac had h2 hg

end Pams.Src
