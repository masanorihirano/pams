/-
`Market._execution` of the current source on a book of two buy orders and one sell order = the
spelled-out round `round21` = the model's `Market.execution` (see SrcMarket21Defs / SrcMarket21Model).
-/
import PamsLemmas.SrcMarket21Model

namespace Pams.Src
open Pams Pams.Py
variable {K : Type}

section
variable (m : Market K) (a c b : Order K) (d : K)
@[py_eval] theorem rhoM21_i10 : (rhoM21 m a c b d).i 10 = a.id := rfl
@[py_eval] theorem rhoM21_i11 : (rhoM21 m a c b d).i 11 = a.placedAt := rfl
@[py_eval] theorem rhoM21_i12 : (rhoM21 m a c b d).i 12 = a.agent := rfl
@[py_eval] theorem rhoM21_i13 : (rhoM21 m a c b d).i 13 = a.vol := rfl
@[py_eval] theorem rhoM21_i20 : (rhoM21 m a c b d).i 20 = b.id := rfl
@[py_eval] theorem rhoM21_i21 : (rhoM21 m a c b d).i 21 = b.placedAt := rfl
@[py_eval] theorem rhoM21_i22 : (rhoM21 m a c b d).i 22 = b.agent := rfl
@[py_eval] theorem rhoM21_i23 : (rhoM21 m a c b d).i 23 = b.vol := rfl
@[py_eval] theorem rhoM21_i30 : (rhoM21 m a c b d).i 30 = c.id := rfl
@[py_eval] theorem rhoM21_i31 : (rhoM21 m a c b d).i 31 = c.placedAt := rfl
@[py_eval] theorem rhoM21_i32 : (rhoM21 m a c b d).i 32 = c.agent := rfl
@[py_eval] theorem rhoM21_i33 : (rhoM21 m a c b d).i 33 = c.vol := rfl
@[py_eval] theorem rhoM21_i54 : (rhoM21 m a c b d).i 54 = m.cur.execVol := rfl
@[py_eval] theorem rhoM21_n1 : (rhoM21 m a c b d).n 1 = a.price.getD d := rfl
@[py_eval] theorem rhoM21_n2 : (rhoM21 m a c b d).n 2 = b.price.getD d := rfl
@[py_eval] theorem rhoM21_n3 : (rhoM21 m a c b d).n 3 = c.price.getD d := rfl
@[py_eval] theorem rhoM21_n51 : (rhoM21 m a c b d).n 51 = m.cur.turnover := rfl
@[py_eval] theorem rhoM21_n53 : (rhoM21 m a c b d).n 53 = m.cur.market.getD d := rfl
@[py_eval] theorem rhoM21_b50 : (rhoM21 m a c b d).b 50 = m.running := rfl
end

variable [LinearOrder K] [NumOpsC K]

/-! ### the round as a decision tree over the atoms of `st21`

first pair `a` / `b`, then — if `a` is filled, `b` has volume left and still crosses `c` — second pair
`c` / `b`, whose price both fills carry.  The source proposes a price for every pair it matches, so the
price of the first pair is asked for (and may raise) even where that of the second overrides it.  The
tests "lower id / higher id / neither" and `b.vol ≤ a.vol` before the second fill are the source's own:
the pruner cannot exclude their raising branches from `≠` and `0 <` alone. -/
section tree
open ITerm NTerm BTerm Tree

/-- `obs21` in terms: the fills are (volume, address of the bid) -/
def obs21T (p : NTerm) (fs : List (ITerm × Nat)) (va vc vb : ITerm) (qb qs : List Obs) (mid : Obs) : Tree Obs :=
  leaf (.tuple [.tuple (fs.map fun f => .tuple [.num p, .int f.1, .int (atom (10 * f.2)), .int (atom 20),
                                                  .int (atom (10 * f.2 + 2)), .int (atom 22), .int (lit 0)]),
                .int va, .int vc, .int vb, .tuple qb, .tuple qs, .tuple [.num p],
                .tuple [.int (fs.foldl (fun acc f => add acc f.1) (atom 54))],
                .tuple [.num (fs.foldl (fun acc f => add acc (mul (ofInt f.1) p)) (atom 51))],
                .tuple [mid], .tuple [.num p]])

def twoFillsT (p2 : NTerm) : Tree Obs :=
  let rest : ITerm := sub (atom 23) (atom 13)
  node (ilt rest (atom 33))
    (fun _ => node (ile (atom 23) (atom 13)) (fun _ => raiseT "AssertionError")
      (fun _ => obs21T p2 [(atom 13, 1), (rest, 3)] (lit 0) (sub (atom 33) rest) (lit 0) [.ref 3] [] .none))
    (fun _ => node (ieq rest (atom 33))
      (fun _ => obs21T p2 [(atom 13, 1), (atom 33, 3)] (lit 0) (lit 0) (sub rest (atom 33)) [] [] .none)
      (fun _ => obs21T p2 [(atom 13, 1), (atom 33, 3)] (lit 0) (lit 0) (sub rest (atom 33)) [] [.ref 2] .none))

def secondT (limitAsk : Bool) (p1 : NTerm) : Tree Obs :=
  if limitAsk then
    node (nlt (atom 3) (atom 2))
      (fun _ => obs21T p1 [(atom 13, 1)] (lit 0) (atom 33) (sub (atom 23) (atom 13)) [.ref 3] [.ref 2]
        (.num (div (add (atom 2) (atom 3)) (ofInt (lit 2)))))
      (fun _ => (pairT (ordAt 3 true) (ordAt 2 limitAsk)).bind (atPriceT twoFillsT))
  else (pairT (ordAt 3 true) (ordAt 2 limitAsk)).bind (atPriceT twoFillsT)

def firstT (limitAsk : Bool) (p1 : NTerm) : Tree Obs :=
  node (ilt (atom 23) (atom 13))
    (fun _ => obs21T p1 [(atom 23, 1)] (sub (atom 13) (atom 23)) (atom 33) (lit 0) [.ref 1, .ref 3] [] .none)
    (fun _ => node (ieq (atom 23) (atom 13))
      (fun _ => obs21T p1 [(atom 13, 1)] (lit 0) (atom 33) (sub (atom 23) (atom 13)) [.ref 3] [] .none)
      (fun _ => secondT limitAsk p1))

/-- The mid-quote `(ask + bid) / 2.0` of `secondT` is a division, but `2.0 ≠ 0.0` is among the facts `assume21`:
the pruner drops the raising branch from the paths of the run, and the tree has no `divT` node (`refreshT` of
SrcCancel, checked without facts, has one). -/
def round21T (limitAsk : Bool) : Tree Obs :=
  let first := (pairT (ordAt 1 true) (ordAt 2 limitAsk)).bind (atPriceT (firstT limitAsk))
  if limitAsk then
    node (nle (atom 2) (atom 1)) (fun _ => first)
      (fun _ => leaf (.tuple [.tuple [], .int (atom 13), .int (atom 33), .int (atom 23), .tuple [.ref 1, .ref 3],
        .tuple [.ref 2], .tuple [.none], .tuple [.int (atom 54)], .tuple [.num (atom 51)], .tuple [.none],
        .tuple [.num (atom 53)]]))
  else first
end tree

theorem exec21_agree : ∀ limitAsk : Bool, ∀ pr ∈ [Prio.price, .time, .id],
    agreesA (pr.assume ++ assume21) execObs21 env 300 "Market._execution" [.ref 5] (st21 limitAsk)
      (round21T limitAsk) = true := by
  decide +kernel

/-- `a` outranks `c` on the buy side (both limit orders): better price, or equal price and earlier
acceptance, or equal price and time and lower id -/
def outranks (a c : Order K) (pa pc : K) : Prop :=
  pc < pa ∨ (pa = pc ∧ a.placedAt < c.placedAt) ∨ (pa = pc ∧ a.placedAt = c.placedAt ∧ a.id < c.id)

def Prio.holds (pr : Prio) (a c : Order K) (pa pc : K) : Prop :=
  match pr with
  | .price => pc < pa
  | .time => pa = pc ∧ a.placedAt < c.placedAt
  | .id => pa = pc ∧ a.placedAt = c.placedAt ∧ a.id < c.id

section denote
variable (m : Market K) (a c b : Order K) (d : K)

theorem assume21_holds (pr : Prio) (pa pc : K) (hpa : a.price = some pa) (hpc : c.price = some pc)
    (hva : a.vol ≠ 0) (hvc : c.vol ≠ 0) (hvb : b.vol ≠ 0) (hab : a.id ≠ b.id) (hcb : c.id ≠ b.id) (hac : a.id ≠ c.id)
    (hr : m.running = true) (h2 : (NumOpsC.ofInt 2 : K) ≠ NumOpsC.ofInt 0) (hpr : pr.holds a c pa pc) :
    ∀ kb ∈ pr.assume ++ assume21, kb.1.eval (rhoM21 m a c b d) = kb.2 := by
  cases pr <;> simp only [Prio.holds] at hpr <;>
    simp [Prio.assume, assume21, py_eval, hpa, hpc, hva, hvc, hvb, hab, hcb, hac, hr, h2, hpr]

theorem bidOrd_reads (x : Order K) (i : Nat) (px : K) (hx : (i = 1 ∧ x = a) ∨ (i = 3 ∧ x = c))
    (hpx : x.price = some px) : (ordAt i true).reads (rhoM21 m a c b d) x := by
  rcases hx with ⟨rfl, rfl⟩ | ⟨rfl, rfl⟩ <;> simp [OrdT.reads, ordAt, optAtom, py_eval, hpx]

theorem askOrd_reads : (ordAt 2 b.price.isSome).reads (rhoM21 m a c b d) b :=
  ⟨optAtom_eval _ _ 2 (d := d) rfl, rfl, rfl⟩

theorem twoFillsT_denote (p2 : NTerm) (ht : m.time = 0) (hlt : a.vol < b.vol) :
    ((twoFillsT p2).denote (rhoM21 m a c b d)).eval (rhoM21 m a c b d) =
      twoFills21 m a c b (p2.eval (rhoM21 m a c b d)) := by
  have hle := Nat.le_of_lt hlt
  rcases Nat.lt_trichotomy (b.vol - a.vol) c.vol with h | h | h
  · have hmin : min c.vol (b.vol - a.vol) = b.vol - a.vol := by omega
    simp [py_eval, twoFillsT, obs21T, twoFills21, obs21, cOpt, ← Int.natCast_sub hle, h, hmin, ht,
      Nat.not_le_of_lt hlt]
    omega
  · simp [py_eval, twoFillsT, obs21T, twoFills21, obs21, cOpt, ← Int.natCast_sub hle, h, ht]
    omega
  · have hmin : min c.vol (b.vol - a.vol) = c.vol := by omega
    simp [py_eval, twoFillsT, obs21T, twoFills21, obs21, cOpt, ← Int.natCast_sub hle, h, hmin, ht, Nat.lt_asymm h,
      Nat.ne_of_gt h]
    omega

theorem secondT_denote (p1 : NTerm) (pc : K) (hpc : c.price = some pc) (hcb : c.id ≠ b.id) (ht : m.time = 0)
    (hlt : a.vol < b.vol) :
    ((secondT b.price.isSome p1).denote (rhoM21 m a c b d)).eval (rhoM21 m a c b d) =
      second21 m a c b (p1.eval (rhoM21 m a c b d)) := by
  have htwo : (((pairT (ordAt 3 true) (ordAt 2 b.price.isSome)).bind (atPriceT twoFillsT)).denote (rhoM21 m a c b d)).eval (rhoM21 m a c b d) =
      atPrice (pairPrice c b) (twoFills21 m a c b) := by
    rw [Tree.denote_bind, atPriceT_denote _ _ (fun p => twoFillsT_denote m a c b d p ht hlt),
      pairT_denote (bidOrd_reads m a c b d c 3 pc (.inr ⟨rfl, rfl⟩) hpc) (askOrd_reads m a c b d) hcb]
  unfold secondT second21
  rcases hpb : b.price with _ | pb <;> simp only [hpb] at htwo
  · simpa [noCross, hpb] using htwo
  · by_cases hc : pc < pb
    · simp [py_eval, obs21T, obs21, cOpt, midOf, Book.bestPrice, srcOps, noCross, hpc, hpb, hc, ht,
        Int.natCast_sub (Nat.le_of_lt hlt)]
    · simpa [py_eval, noCross, hpc, hpb, hc] using htwo

theorem firstT_denote (p1 : NTerm) (pc : K) (hpc : c.price = some pc) (hcb : c.id ≠ b.id) (ht : m.time = 0) :
    ((firstT b.price.isSome p1).denote (rhoM21 m a c b d)).eval (rhoM21 m a c b d) =
      first21 m a c b (p1.eval (rhoM21 m a c b d)) := by
  unfold firstT first21
  rcases Nat.lt_trichotomy b.vol a.vol with h | h | h
  · simp [py_eval, obs21T, obs21, cOpt, h, ht]
  · simp [py_eval, obs21T, obs21, cOpt, h, ht]
  · simp [py_eval, Nat.lt_asymm h, Nat.ne_of_gt h, secondT_denote m a c b d p1 pc hpc hcb ht h]

theorem round21T_denote (pa pc mp : K) (hpa : a.price = some pa) (hpc : c.price = some pc) (ht : m.time = 0)
    (hl : m.cur.last = none) (hmid : m.cur.mid = none) (hmk : m.cur.market = some mp)
    (hab : a.id ≠ b.id) (hcb : c.id ≠ b.id) :
    ((round21T b.price.isSome).denote (rhoM21 m a c b d)).eval (rhoM21 m a c b d) = round21 m a c b := by
  have hfirst : (((pairT (ordAt 1 true) (ordAt 2 b.price.isSome)).bind (atPriceT (firstT b.price.isSome))).denote (rhoM21 m a c b d)).eval
      (rhoM21 m a c b d) = atPrice (pairPrice a b) (first21 m a c b) := by
    rw [Tree.denote_bind, atPriceT_denote _ _ (fun p => firstT_denote m a c b d p pc hpc hcb ht),
      pairT_denote (bidOrd_reads m a c b d a 1 pa (.inl ⟨rfl, rfl⟩) hpa) (askOrd_reads m a c b d) hab]
  unfold round21T round21
  rcases hpb : b.price with _ | pb <;> simp only [hpb] at hfirst
  · simpa [remainExecutable, hpa, hpb] using hfirst
  · by_cases hc : pb ≤ pa
    · simpa [py_eval, remainExecutable, hpa, hpb, hc] using hfirst
    · simp [py_eval, remainExecutable, hpa, hpb, hc, cOpt, hl, hmid, hmk]

end denote

theorem execution21_src_round (m : Market K) (a c b : Order K) (pa pc mp dflt : K)
    (hpa : a.price = some pa) (hpc : c.price = some pc) (ht : m.time = 0)
    (hl : m.cur.last = none) (hmid : m.cur.mid = none) (hmk : m.cur.market = some mp)
    (hva : a.vol ≠ 0) (hvc : c.vol ≠ 0) (hvb : b.vol ≠ 0) (hab : a.id ≠ b.id) (hcb : c.id ≠ b.id) (hac : a.id ≠ c.id)
    (hr : m.running = true) (h2 : (NumOpsC.ofInt 2 : K) ≠ NumOpsC.ofInt 0) (hprio : outranks a c pa pc) :
    resultG execObs21 (rhoM21 m a c b dflt) env 300 "Market._execution" [.ref 5] (st21 b.price.isSome) =
      round21 m a c b := by
  obtain ⟨pr, hpr⟩ : ∃ pr : Prio, pr.holds a c pa pc := by
    rcases hprio with h | h | h
    exacts [⟨.price, h⟩, ⟨.time, h⟩, ⟨.id, h⟩]
  rw [← round21T_denote m a c b dflt pa pc mp hpa hpc ht hl hmid hmk hab hcb]
  exact resultG_eq_of_agree _ (assume21_holds m a c b dflt pr pa pc hpa hpc hva hvc hvb hab hcb hac hr h2 hpr)
    (exec21_agree _ pr (by cases pr <;> simp))

-- `ha hc hbs` name the sides of the three orders; neither the model's round nor the source's asks for them
set_option linter.unusedVariables false in
/-- **`Market._execution` of the current source on a sorted book of two limit buy orders `[a, c]` and
one limit sell order `[b]` is the model's `Market.execution`** — for all prices, volumes (positive),
ids (distinct), acceptance times, agents and step statistics, in a running market: in particular when
`b` is larger than `a` and still crosses `c`, the two fills the source returns carry one common price,
the one the *second* pair proposes. -/
theorem execution21_src (m : Market K) (a c b : Order K) (pa pc pb mp dflt : K)
    (hb : m.buys = [a, c]) (hs : m.sells = [b]) (ha : a.isBuy = true) (hc : c.isBuy = true) (hbs : b.isBuy = false)
    (hpa : a.price = some pa) (hpc : c.price = some pc) (hpb : b.price = some pb) (ht : m.time = 0)
    (hl : m.cur.last = none) (hmid : m.cur.mid = none) (hmk : m.cur.market = some mp)
    (hva : a.vol ≠ 0) (hvc : c.vol ≠ 0) (hvb : b.vol ≠ 0) (hab : a.id ≠ b.id) (hcb : c.id ≠ b.id) (hac : a.id ≠ c.id)
    (hr : m.running = true) (h2 : (NumOpsC.ofInt 2 : K) ≠ NumOpsC.ofInt 0) (hprio : outranks a c pa pc) :
    resultG execObs21 (rhoM21 m a c b dflt) env 300 "Market._execution" [.ref 5] (st21 true)
      = modelObs21 a c (Market.execution (srcOps K) m) := by
  rw [model_round21 m a c b pa pc hb hs hpa hpc hva hvc hvb hab hcb hac hr,
    ← execution21_src_round m a c b pa pc mp dflt hpa hpc ht hl hmid hmk hva hvc hvb hab hcb hac hr h2 hprio, hpb]
  rfl

set_option linter.unusedVariables false in
/-- the same with a **market sell order** sweeping two limit bids at different prices: both fills at
the price of the last matched bid -/
theorem execution21_src_market_sell (m : Market K) (a c b : Order K) (pa pc pb mp dflt : K)
    (hb : m.buys = [a, c]) (hs : m.sells = [b]) (ha : a.isBuy = true) (hc : c.isBuy = true) (hbs : b.isBuy = false)
    (hpa : a.price = some pa) (hpc : c.price = some pc) (hpb : b.price = none) (ht : m.time = 0)
    (hl : m.cur.last = none) (hmid : m.cur.mid = none) (hmk : m.cur.market = some mp)
    (hva : a.vol ≠ 0) (hvc : c.vol ≠ 0) (hvb : b.vol ≠ 0) (hab : a.id ≠ b.id) (hcb : c.id ≠ b.id) (hac : a.id ≠ c.id)
    (hr : m.running = true) (h2 : (NumOpsC.ofInt 2 : K) ≠ NumOpsC.ofInt 0) (hprio : pc < pa) :
    resultG execObs21 (rhoM21 m a c b dflt) env 300 "Market._execution" [.ref 5] (st21 false)
      = modelObs21 a c (Market.execution (srcOps K) m) := by
  rw [model_round21 m a c b pa pc hb hs hpa hpc hva hvc hvb hab hcb hac hr,
    ← execution21_src_round m a c b pa pc mp dflt hpa hpc ht hl hmid hmk hva hvc hvb hab hcb hac hr h2 (.inl hprio),
    hpb]
  rfl

end Pams.Src
