/-
`Session.setup` as it stands in /repo (translated: `PamsGen.Code`) reads the session parameters off the
settings exactly: every configured value — whatever it is, 0 and `False` included — becomes the
attribute, the deprecated keys set the same attributes as their replacements, giving both is refused,
a missing required key is refused.  By symbolic execution of the source.

The session object lives at address 8 (optional attributes pre-set to atoms 81 / 82 / num 83); the
settings are a dictionary value with string keys and atom values.
-/
import PamsLemmas.Agree
import PamsGen.Code
import PamsLemmas.SrcOrder

namespace Pams.Src
open Pams Pams.Py

variable {K : Type} [LinearOrder K] [NumOpsC K]

def sessionObj0 : String → Option Val
  | "__class__" => some (.str "Session")
  | "iteration_steps" => some (.int (.atom 80))
  | "max_normal_orders" => some (.int (.atom 81))
  | "max_high_frequency_orders" => some (.int (.atom 82))
  | "high_frequency_submission_rate" => some (.num (.atom 83))
  | "with_order_placement" => some (.bool (.atom 84))
  | "with_order_execution" => some (.bool (.atom 85))
  | "with_print" => some (.bool (.atom 86))
  | _ => none

def sessionSt : St := { heap := fun a => if a = 8 then sessionObj0 else fun _ => none, calls := [] }

def reqKeys : List Val := [.str "iterationSteps", .str "withOrderPlacement", .str "withOrderExecution", .str "withPrint"]
def reqVals : List Val := [.int (.atom 1), .bool (.atom 2), .bool (.atom 3), .bool (.atom 4)]

def settingsOf (extraKeys : List String) (extraVals : List Val) : Val :=
  .dict (reqKeys ++ extraKeys.map Val.str) (reqVals ++ extraVals)

/-- the attributes of the session afterwards -/
def sessionObs : Except Py.Err (Val × St) → Obs
  | .ok (_, st) =>
    .tuple [Obs.ofOpt (st.heap 8 "iteration_steps"), Obs.ofOpt (st.heap 8 "with_order_placement"),
            Obs.ofOpt (st.heap 8 "with_order_execution"), Obs.ofOpt (st.heap 8 "with_print"),
            Obs.ofOpt (st.heap 8 "max_normal_orders"), Obs.ofOpt (st.heap 8 "max_high_frequency_orders"),
            Obs.ofOpt (st.heap 8 "high_frequency_submission_rate")]
  | .error e => .err e

/-- valuation: configured steps / switches (atoms 1–4), caps (5, 6), rate (num 7); previous values of the
optional attributes (81, 82, num 83) -/
def rhoSession (steps : Int) (place exec print : Bool) (maxN maxH : Int) (rate : K) (oldN oldH : Int) (oldR : K) : Rho K :=
  { i := fun k => if k = 1 then steps else if k = 5 then maxN else if k = 6 then maxH else if k = 81 then oldN
      else if k = 82 then oldH else 0
    n := fun k => if k = 7 then rate else oldR
    b := fun k => if k = 2 then place else if k = 3 then exec else if k = 4 then print else false }

def sNew : Val := settingsOf ["maxNormalOrders", "maxHighFrequencyOrders", "highFrequencySubmitRate"]
  [.int (.atom 5), .int (.atom 6), .num (.atom 7)]
def sLegacy : Val := settingsOf ["maxNormalOrders", "maxHifreqOrders", "hifreqSubmitRate"]
  [.int (.atom 5), .int (.atom 6), .num (.atom 7)]
def sMinimal : Val := settingsOf [] []
def sBothCaps : Val := settingsOf ["maxHighFrequencyOrders", "maxHifreqOrders"] [.int (.atom 6), .int (.atom 6)]
def sBothRates : Val := settingsOf ["highFrequencySubmitRate", "hifreqSubmitRate"] [.num (.atom 7), .num (.atom 7)]
def sNoSteps : Val := .dict (reqKeys.tail) (reqVals.tail)
def sStepsNotInt : Val := .dict reqKeys (.num (.atom 7) :: reqVals.tail)

/-- the required parameters as configured (atoms 1–4), then the two caps and the rate -/
def sessionO (maxN maxH : ITerm) (rate : NTerm) : Obs :=
  .tuple [.int (.atom 1), .bool (.atom 2), .bool (.atom 3), .bool (.atom 4), .int maxN, .int maxH, .num rate]

/-- settings and what `sessionObs` shows after `Session.setup`: every configured value becomes the attribute;
the deprecated keys `maxHifreqOrders` / `hifreqSubmitRate` set the same attributes; without the optional keys
the optional attributes keep their values; a deprecated key together with its replacement, a missing required
key, a step count that is not an integer are refused -/
def sessionCases : List (Val × Obs) :=
  [(sNew, sessionO (.atom 5) (.atom 6) (.atom 7)), (sLegacy, sessionO (.atom 5) (.atom 6) (.atom 7)),
   (sMinimal, sessionO (.atom 81) (.atom 82) (.atom 83))] ++
  [sBothCaps, sBothRates, sNoSteps, sStepsNotInt].map (·, .err (.raise "ValueError"))

theorem session_agree : ∀ c ∈ sessionCases,
    agreesP sessionObs env FUEL "Session.setup" [.ref 8, c.1] sessionSt (.leaf c.2) = true := by
  decide +kernel

end Pams.Src
