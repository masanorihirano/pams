/-
`IndexMarket.compute_market_index` / `compute_fundamental_index` as they stand in /repo (translated:
`PamsGen.Code`) are the model's `Index.indexValue` — by symbolic execution, for two and for three
components, all prices and share counts.

The index market lives at address 9, its components at 5, 6, 7 (objects of a class whose getters are
extern): outstanding shares are int atoms 50, 60, 70; the oracle answers `get_market_price(time=t)` with
num atoms 5, 6, 7 and `get_fundamental_price(time=t)` with 15, 16, 17.
-/
import PamsLemmas.Agree
import PamsGen.Code
import PamsModel.Index
import PamsLemmas.SrcOrder

namespace Pams.Src
open Pams Pams.Py

variable {K : Type}

def compObj (k : Nat) : String → Option Val
  | "__class__" => some (.str "ProbeMarket")
  | "outstanding_shares" => some (.int (.atom (10 * k)))
  | _ => none

def indexObj (n : Nat) : String → Option Val
  | "__class__" => some (.str "IndexMarket")
  | "_components" => some (.list (([5, 6, 7].take n).map Val.ref))
  | _ => none

def indexHeap (n : Nat) : Nat → String → Option Val :=
  fun addr => if addr = 9 then indexObj n else if addr = 5 then compObj 5 else if addr = 6 then compObj 6
    else if addr = 7 then compObj 7 else fun _ => none

def indexSt (n : Nat) : St := { heap := indexHeap n, calls := [] }

def indexExt : Ext := fun st recv fn _ =>
  match recv, fn with
  | .ref a, "get_market_price" => some (.num (.atom a), st)
  | .ref a, "get_fundamental_price" => some (.num (.atom (10 + a)), st)
  | _, _ => none

def indexEnv : Env := { prog := PamsGen.Code.prog, globals := globals, ext := indexExt }

/-- valuation: prices `p` (market) / `q` (fundamental) and shares `s` of the components 5, 6, 7 -/
def rhoIndex (p q : Nat → K) (s : Nat → Nat) (t : Int) : Rho K :=
  { i := fun k => if k = 50 then s 5 else if k = 60 then s 6 else if k = 70 then s 7 else if k = 1 then t else 0
    n := fun k => if k = 5 then p 5 else if k = 6 then p 6 else if k = 7 then p 7
      else if k = 15 then q 5 else if k = 16 then q 6 else if k = 17 then q 7 else p 0
    b := fun _ => false }

section
variable (p q : Nat → K) (s : Nat → Nat) (t : Int)
@[py_eval] theorem rhoIndex_i50 : (rhoIndex p q s t).i 50 = s 5 := rfl
@[py_eval] theorem rhoIndex_i60 : (rhoIndex p q s t).i 60 = s 6 := rfl
@[py_eval] theorem rhoIndex_i70 : (rhoIndex p q s t).i 70 = s 7 := rfl
@[py_eval] theorem rhoIndex_n5 : (rhoIndex p q s t).n 5 = p 5 := rfl
@[py_eval] theorem rhoIndex_n6 : (rhoIndex p q s t).n 6 = p 6 := rfl
@[py_eval] theorem rhoIndex_n7 : (rhoIndex p q s t).n 7 = p 7 := rfl
@[py_eval] theorem rhoIndex_n15 : (rhoIndex p q s t).n 15 = q 5 := rfl
@[py_eval] theorem rhoIndex_n16 : (rhoIndex p q s t).n 16 = q 6 := rfl
@[py_eval] theorem rhoIndex_n17 : (rhoIndex p q s t).n 17 = q 7 := rfl
end

variable [LinearOrder K] [NumOpsC K]

/-! ### the model side on terms

`Index.totals` and `Index.indexValue` over the components at the addresses `comps`: component `a` has the
shares atom `10 * a` and the price term `price a`. -/

def totalsNI (price : Nat → NTerm) (comps : List Nat) : NTerm × ITerm :=
  comps.foldl (fun acc a => (.add acc.1 (.mul (price a) (.ofInt (.atom (10 * a)))), .add acc.2 (.atom (10 * a))))
    (.ofInt (.lit 0), .lit 0)

/-- the division raises when the total share count is zero as a float -/
def indexT (price : Nat → NTerm) (comps : List Nat) : Tree Obs :=
  .divT (.ofInt (totalsNI price comps).2) <|
    .leaf (.num (.div (totalsNI price comps).1 (.ofInt (totalsNI price comps).2)))

def indexFn (fundamental : Bool) : String :=
  if fundamental then "IndexMarket.compute_fundamental_index" else "IndexMarket.compute_market_index"

/-- the price atom the oracle answers with for component `a` -/
def indexPriceN (fundamental : Bool) (a : Nat) : NTerm := .atom (if fundamental then 10 + a else a)

theorem index_agree : ∀ fundamental : Bool, ∀ n ∈ [2, 3],
    agreesP obs indexEnv FUEL (indexFn fundamental) [.ref 9, .int (.atom 1)] (indexSt n)
      (indexT (indexPriceN fundamental) ([5, 6, 7].take n)) = true := by
  decide +kernel

theorem totalsNI_eval (ρ : Rho K) (price : Nat → NTerm) (pr : Nat → K) (sh : Nat → Nat) (comps : List Nat)
    (h : ∀ a ∈ comps, (price a).eval ρ = pr a ∧ ρ.i (10 * a) = sh a) :
    (totalsNI price comps).1.eval ρ = (Index.totals (comps.map fun a => (pr a, sh a))).1 ∧
    (totalsNI price comps).2.eval ρ = ((Index.totals (comps.map fun a => (pr a, sh a))).2 : Int) := by
  unfold totalsNI Index.totals
  generalize hacc : ((.ofInt (.lit 0), .lit 0) : NTerm × ITerm) = acc
  generalize haccM : ((Arith.zero, 0) : K × Nat) = accM
  have h0 : acc.1.eval ρ = accM.1 ∧ acc.2.eval ρ = (accM.2 : Int) := by
    subst hacc haccM
    simp [py_eval]
  clear hacc haccM
  induction comps generalizing acc accM with
  | nil => exact h0
  | cons a as ih =>
    have ha := h a (List.mem_cons_self ..)
    refine ih (fun b hb => h b (List.mem_cons_of_mem _ hb)) _ _ ?_
    simp [py_eval, ha.1, ha.2, h0.1, h0.2]

theorem indexT_denote (ρ : Rho K) (price : Nat → NTerm) (pr : Nat → K) (sh : Nat → Nat) (comps : List Nat)
    (h : ∀ a ∈ comps, (price a).eval ρ = pr a ∧ ρ.i (10 * a) = sh a)
    (hz : (NumOpsC.ofInt ((Index.totals (comps.map fun a => (pr a, sh a))).2 : Int) : K) ≠ NumOpsC.ofInt 0) :
    ((indexT price comps).denote ρ).eval ρ = .num (Index.indexValue (comps.map fun a => (pr a, sh a))) := by
  obtain ⟨h1, h2⟩ := totalsNI_eval ρ price pr sh comps h
  simp [indexT, py_eval, h1, h2, hz, Index.indexValue]

/-- the first `n` components with the prices `pr` and the shares `s` -/
def indexComps (pr : Nat → K) (s : Nat → Nat) (n : Nat) : List (K × Nat) := ([5, 6, 7].take n).map fun a => (pr a, s a)

/-- **the market index and the fundamental index of two / three components are the model's share-weighted
fold** (the total share count is not zero as a float) -/
theorem index_src_value (p q : Nat → K) (s : Nat → Nat) (t : Int) (fundamental : Bool) (n : Nat) (hn : n ∈ [2, 3])
    (hz : (NumOpsC.ofInt ((Index.totals (indexComps (if fundamental then q else p) s n)).2 : Int) : K) ≠ NumOpsC.ofInt 0) :
    result (rhoIndex p q s t) indexEnv FUEL (indexFn fundamental) [.ref 9, .int (.atom 1)] (indexSt n)
      = .num (Index.indexValue (indexComps (if fundamental then q else p) s n)) := by
  rw [result, resultG_eq_of_agreeP _ (index_agree fundamental n hn)]
  refine indexT_denote _ _ _ s _ (fun a ha => ?_) hz
  have ha' : a ∈ [5, 6, 7] := List.mem_of_mem_take ha
  simp only [List.mem_cons, List.not_mem_nil, or_false] at ha'
  rcases ha' with rfl | rfl | rfl <;> cases fundamental <;> simp [indexPriceN, py_eval]

/-- an index market (address 9) over the components 5 and 6, whose running flags are the bool atoms 5 and 6;
a candidate component at address 7 with (`shares = true`) or without outstanding shares -/
def idxBkHeap (shares : Bool) : Nat → String → Option Val :=
  fun addr =>
    if addr = 9 then (fun f => match f with
      | "__class__" => some (.str "IndexMarket") | "_components" => some (.list [.ref 5, .ref 6]) | _ => none)
    else if addr = 5 ∨ addr = 6 then (fun f => match f with
      | "__class__" => some (.str "Market") | "_is_running" => some (.bool (.atom addr))
      | "outstanding_shares" => some (.int (.atom (10 * addr))) | _ => none)
    else if addr = 7 then (fun f => match f with
      | "__class__" => some (.str "Market") | "outstanding_shares" => some (if shares then .int (.atom 70) else .none)
      | _ => none)
    else fun _ => none

def idxBkSt (shares : Bool) : St := { heap := idxBkHeap shares, calls := [] }
def idxBkEnv : Env := { prog := PamsGen.Code.prog, globals := globals, ext := fun _ _ _ _ => none, mro := PamsGen.Code.mroOf }

def compsObs : Except Py.Err (Val × St) → Obs
  | .ok (v, st) => .tuple [Obs.ofVal v, match st.heap 9 "_components" with
      | some (.list l) => .tuple (l.map Obs.ofVal) | _ => .absent]
  | .error e => .err e

def rhoBk (r5 r6 : Bool) : Rho K :=
  { i := fun _ => 0, n := fun _ => PyNum.ofInt 0, b := fun k => if k = 5 then r5 else r6 }

@[py_eval] theorem rhoBk_b5 (r5 r6 : Bool) : (rhoBk (K := K) r5 r6).b 5 = r5 := rfl
@[py_eval] theorem rhoBk_b6 (r5 r6 : Bool) : (rhoBk (K := K) r5 r6).b 6 = r6 := rfl

/-- what `is_all_markets_running` shows: it counts the components that are not running and compares with zero -/
def allRunningO : Obs :=
  .tuple [.bool (.ieq (.add (.add (.lit 0) (.ofBool (.not (.atom 5)))) (.ofBool (.not (.atom 6)))) (.lit 0)),
          .tuple [.ref 5, .ref 6]]

/-- the calls checked (method, arguments, has the candidate shares) and what the one path of each shows -/
def idxBkCalls : List (String × List Val × Bool × Obs) :=
  [("is_all_markets_running", [], true, allRunningO),
   ("_add_market", [.ref 7], true, .tuple [.none, .tuple [.ref 5, .ref 6, .ref 7]]),
   ("_add_market", [.ref 7], false, .err (.raise "AssertionError")),
   ("_add_market", [.ref 6], true, .err (.raise "ValueError"))]

theorem idxBk_agree : ∀ c ∈ idxBkCalls,
    agreesP compsObs idxBkEnv FUEL ("IndexMarket." ++ c.1) (.ref 9 :: c.2.1) (idxBkSt c.2.2.1)
      (Tree.leaf c.2.2.2) = true := by
  decide +kernel

theorem idxBk_src (ρ : Rho K) : ∀ c ∈ idxBkCalls,
    resultG compsObs ρ idxBkEnv FUEL ("IndexMarket." ++ c.1) (.ref 9 :: c.2.1) (idxBkSt c.2.2.1) = c.2.2.2.eval ρ :=
  fun c hc => resultG_eq_of_agreeP _ (idxBk_agree c hc)

/-- **`is_all_markets_running` is the conjunction of the components' running flags**; `_add_market` appends a
new component, and refuses one that is a component already or has no outstanding shares -/
theorem index_src_components (r5 r6 : Bool) :
    resultG compsObs (rhoBk (K := K) r5 r6) idxBkEnv FUEL "IndexMarket.is_all_markets_running" [.ref 9] (idxBkSt true)
      = .tuple [.bool (r5 && r6), .tuple [.ref 5, .ref 6]] ∧
    resultG compsObs (rhoBk (K := K) r5 r6) idxBkEnv FUEL "IndexMarket._add_market" [.ref 9, .ref 7] (idxBkSt true)
      = .tuple [.none, .tuple [.ref 5, .ref 6, .ref 7]] ∧
    resultG compsObs (rhoBk (K := K) r5 r6) idxBkEnv FUEL "IndexMarket._add_market" [.ref 9, .ref 7] (idxBkSt false)
      = .err (.raise "AssertionError") ∧
    resultG compsObs (rhoBk (K := K) r5 r6) idxBkEnv FUEL "IndexMarket._add_market" [.ref 9, .ref 6] (idxBkSt true)
      = .err (.raise "ValueError") := by
  refine ⟨(idxBk_src _ ("is_all_markets_running", [], true, allRunningO) (by simp [idxBkCalls])).trans ?_,
    idxBk_src _ ("_add_market", [.ref 7], true, .tuple [.none, .tuple [.ref 5, .ref 6, .ref 7]]) (by simp [idxBkCalls]),
    idxBk_src _ ("_add_market", [.ref 7], false, .err (.raise "AssertionError")) (by simp [idxBkCalls]),
    idxBk_src _ ("_add_market", [.ref 6], true, .err (.raise "ValueError")) (by simp [idxBkCalls])⟩
  cases r5 <;> cases r6 <;> simp [allRunningO, py_eval]

end Pams.Src
