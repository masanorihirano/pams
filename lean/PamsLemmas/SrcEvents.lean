/-
The built-in events as they stand in /repo (translated: `PamsGen.Code`) compute what the models in
`PamsModel/Events.lean` say — by symbolic execution of the source.

Heap layout: the order at address 1 (`SrcOrder.symOrder`), the rule / shock object at 3, the target
market at 5, another (non-target) market at 6, the simulator at 7, the current session at 8.
`market.get_market_price(..)`, `market.get_time()`, `market.change_fundamental_price(..)` are
extern calls: the oracle answers price queries with num atoms (4 = the price at time 0 of market 5,
6 = its current price), the clock with int atom 51.

The source theorems of `thrBeforeT`, `omsT` and `fpsT` (target market) are stated in PamsProps: `C16.code_resume`,
`C16.code_no_spurious_resume`, `C14.code_mistake_hook`, `C14.code_fundamental_shock`.
-/
import PamsLemmas.EvalNf
import PamsGen.Code
import PamsModel.Events
import PamsLemmas.SrcOrder

namespace Pams.Src
open Pams Pams.Py

variable {K : Type}

/-- a market object: id, running flag, clock as atoms -/
def symMarket (k : Nat) : String → Option Val
  | "__class__" => some (.str "Market")
  | "market_id" => some (.int (.lit k))
  | "_is_running" => some (.bool (.atom (10 * k)))
  | "time" => some (.int (.atom (10 * k + 1)))
  | _ => none

/-- price limit rule with the single target market at address 5 -/
def plrObj : String → Option Val
  | "__class__" => some (.str "PriceLimitRule")
  | "target_markets" => some (.dict [.str "m5"] [.ref 5])
  | "trigger_change_rate" => some (.num (.atom 3))
  | "activation_count" => some (.int (.atom 30))
  | _ => none

def simObj : String → Option Val
  | "__class__" => some (.str "Simulator")
  | "id2market" => some (.dict [.int (.lit 5), .int (.lit 6)] [.ref 5, .ref 6])
  | "current_session" => some (.ref 8)
  | _ => none

def sessionObj : String → Option Val
  | "__class__" => some (.str "Session")
  | "with_order_execution" => some (.bool (.atom 80))
  | _ => none

def evExt : Ext := fun st recv fn args =>
  match recv, fn, args with
  | .ref 5, "get_market_price", [.int (.lit 0)] => some (.num (.atom 4), st)
  | .ref 5, "get_market_price", [] => some (.num (.atom 6), st)
  | .ref 6, "get_market_price", [.int (.lit 0)] => some (.num (.atom 7), st)
  | .ref 6, "get_market_price", [] => some (.num (.atom 8), st)
  | .ref 5, "get_time", [] => some (.int (.atom 51), st)
  | .ref 6, "get_time", [] => some (.int (.atom 61), st)
  | .ref _, "change_fundamental_price", [_] => some (.none, st)
  | _, _, _ => none

/-- the translated program without the market's own `change_fundamental_price` and price getters (a call of one is an
extern call here: the events are stated modulo the market's methods) -/
def evProg : List (String × FunDef) :=
  PamsGen.Code.prog.filter (fun e => !(e.1 == "Market.change_fundamental_price" ||
    e.1 == "Market.get_market_price" || e.1 == "Market.get_fundamental_price" || e.1 == "Market.get_mid_price" ||
    e.1 == "Market.get_last_executed_price"))

def evEnv : Env := { prog := evProg, globals := globals, ext := evExt }

def plrHeap (limit : Bool) : Nat → String → Option Val :=
  fun addr => if addr = 1 then symOrder 1 limit false else if addr = 3 then plrObj
    else if addr = 5 then symMarket 5 else if addr = 6 then symMarket 6 else if addr = 7 then simObj
    else if addr = 100 then kindObj 0 else if addr = 101 then kindObj 1 else fun _ => none

def plrSt (limit : Bool) : St := { heap := plrHeap limit, calls := [] }

/-- valuation: price of the order `p` (num atom 1), rate `r` (3), reference price `p0` (4) -/
def rhoClip (p r p0 : K) (x : Nat → Int) (y : Nat → Bool) : Rho K :=
  { i := x, n := fun k => if k = 1 then p else if k = 3 then r else if k = 4 then p0 else p0, b := y }

/-- what the hook does to the world: the order's price and the rule's activation counter -/
def plrObs : Except Err (Val × St) → Obs
  | .ok (_, st) => .tuple [Obs.ofOpt (st.heap 1 "price"), Obs.ofOpt (st.heap 3 "activation_count")]
  | .error e => .err e

/-- valuation for the hook: additionally the order's market id (int atom 15) and the activation
counter (int atom 30) -/
def rhoHook (p r p0 : K) (market : Nat) (acts : Nat) (y : Nat → Bool) : Rho K :=
  { i := fun k => if k = 15 then market else if k = 30 then acts else 0,
    n := fun k => if k = 1 then p else if k = 3 then r else if k = 4 then p0 else p0, b := y }

/-- the rule object; `hm` / `hs` = what `halting_market` / `halting_session` hold
(0 = `None`, otherwise the address) -/
def thrObj (hm hs : Nat) : String → Option Val
  | "__class__" => some (.str "TradingHaltRule")
  | "target_markets" => some (.dict [.str "m5"] [.ref 5])
  | "trigger_change_rate" => some (.num (.atom 3))
  | "activation_count" => some (.int (.atom 30))
  | "halting_time_started" => some (.int (.atom 31))
  | "halting_time_length" => some (.int (.atom 32))
  | "halting_market" => some (if hm = 0 then .none else .ref hm)
  | "halting_session" => some (if hs = 0 then .none else .ref hs)
  | _ => none

def execLogObj : String → Option Val
  | "__class__" => some (.str "ExecutionLog")
  | "market_id" => some (.int (.atom 95))
  | _ => none

def thrHeap (hm hs : Nat) : Nat → String → Option Val :=
  fun addr => if addr = 3 then thrObj hm hs else if addr = 5 then symMarket 5 else if addr = 6 then symMarket 6
    else if addr = 7 then simObj else if addr = 8 then sessionObj else if addr = 9 then execLogObj
    else fun _ => none

def thrSt (hm hs : Nat) : St := { heap := thrHeap hm hs, calls := [] }

/-- what the hooks do to the world: the target market's running flag, the rule's bookkeeping, the
session's execution flag -/
def thrObs : Except Err (Val × St) → Obs
  | .ok (_, st) => .tuple [Obs.ofOpt (st.heap 5 "_is_running"), Obs.ofOpt (st.heap 3 "halting_time_started"),
      Obs.ofOpt (st.heap 3 "activation_count"), Obs.ofOpt (st.heap 8 "with_order_execution"),
      Obs.ofOpt (st.heap 3 "halting_market"), Obs.ofOpt (st.heap 3 "halting_session")]
  | .error e => .err e

/-- valuation: the fill's market (int atom 95), the target's clock (51), the rule's counters
(30 activations, 31 started, 32 length), rate (num 3), time-0 price (4), current price (6), the
target's running flag (bool 50), the session's flag (80) -/
def rhoHalt (r p0 p : K) (mkt time acts started length : Nat) (running sesFlag : Bool) : Rho K :=
  { i := fun k => if k = 95 then mkt else if k = 51 then time else if k = 30 then acts
      else if k = 31 then started else if k = 32 then length else 0,
    n := fun k => if k = 3 then r else if k = 4 then p0 else if k = 6 then p else p0,
    b := fun k => if k = 50 then running else sesFlag }

def omsObj : String → Option Val
  | "__class__" => some (.str "OrderMistakeShock")
  | "triggerd" => some (.bool (.atom 33))
  | "target_market" => some (.ref 5)
  | "simulator" => some (.ref 7)
  | "price_change_rate" => some (.num (.atom 3))
  | "order_time_length" => some (.int (.atom 34))
  | "order_volume" => some (.int (.atom 35))
  | _ => none

def omsHeap (limit : Bool) : Nat → String → Option Val :=
  fun addr => if addr = 1 then symOrder 1 limit false else if addr = 3 then omsObj
    else if addr = 5 then symMarket 5 else if addr = 6 then symMarket 6 else if addr = 7 then simObj
    else if addr = 100 then kindObj 0 else if addr = 101 then kindObj 1 else fun _ => none

def omsSt (limit : Bool) : St := { heap := omsHeap limit, calls := [] }

/-- the order's fields and the shock's flag after the hook -/
def omsObs : Except Err (Val × St) → Obs
  | .ok (_, st) => .tuple [Obs.ofOpt (st.heap 1 "is_buy"), Obs.ofOpt (st.heap 1 "kind"),
      Obs.ofOpt (st.heap 1 "volume"), Obs.ofOpt (st.heap 1 "price"), Obs.ofOpt (st.heap 1 "ttl"),
      Obs.ofOpt (st.heap 3 "triggerd")]
  | .error e => .err e

def omsPaths (limit : Bool) :=
  obsPathsG omsObs evEnv FUEL "OrderMistakeShock.hooked_before_order" [.ref 3, .ref 7, .ref 1] (omsSt limit)
theorem omsPaths_f : omsPaths false = evalnf% (omsPaths false) := by kernel_rfl

/-- valuation: the order (price num 1, volume int 13, side bool 10, market int 15), the shock (rate
num 3, lifetime int 34, volume int 35, flag bool 33), the target's current price (num 6) -/
def rhoOms (p rate mp : K) (mkt vol0 ttl vol : Nat) (isBuy trig : Bool) : Rho K :=
  { i := fun k => if k = 15 then mkt else if k = 13 then vol0 else if k = 34 then ttl else if k = 35 then vol else 0,
    n := fun k => if k = 1 then p else if k = 3 then rate else if k = 6 then mp else mp,
    b := fun k => if k = 10 then isBuy else trig }

def fpsObj : String → Option Val
  | "__class__" => some (.str "FundamentalPriceShock")
  | "target_market" => some (.ref 5)
  | "trigger_time" => some (.int (.atom 36))
  | "shock_time_length" => some (.int (.atom 37))
  | "price_change_rate" => some (.num (.atom 3))
  | _ => none

def fpsHeap : Nat → String → Option Val :=
  fun addr => if addr = 3 then fpsObj else if addr = 5 then symMarket 5 else if addr = 6 then symMarket 6
    else if addr = 7 then simObj else fun _ => none

def fpsSt : St := { heap := fpsHeap, calls := [] }

/-- the extern calls made (most recent first): name, receiver, first argument -/
def callsObs : Except Err (Val × St) → Obs
  | .ok (_, st) => .tuple (st.calls.map (fun c => .tuple [.str c.fn, Obs.ofVal c.recv, Obs.ofOpt c.args.head?]))
  | .error e => .err e

def rhoFps (rate : K) (time trigger length : Nat) : Rho K :=
  { i := fun k => if k = 51 then time else if k = 61 then time else if k = 36 then trigger else if k = 37 then length else 0,
    n := fun _ => rate, b := fun _ => false }

section
variable (r p0 p : K) (mkt time acts started length : Nat) (running sesFlag : Bool)
@[py_eval] theorem rhoHalt_i30 : (rhoHalt r p0 p mkt time acts started length running sesFlag).i 30 = acts := rfl
@[py_eval] theorem rhoHalt_i31 : (rhoHalt r p0 p mkt time acts started length running sesFlag).i 31 = started := rfl
@[py_eval] theorem rhoHalt_i32 : (rhoHalt r p0 p mkt time acts started length running sesFlag).i 32 = length := rfl
@[py_eval] theorem rhoHalt_i51 : (rhoHalt r p0 p mkt time acts started length running sesFlag).i 51 = time := rfl
@[py_eval] theorem rhoHalt_i95 : (rhoHalt r p0 p mkt time acts started length running sesFlag).i 95 = mkt := rfl
@[py_eval] theorem rhoHalt_n3 : (rhoHalt r p0 p mkt time acts started length running sesFlag).n 3 = r := rfl
@[py_eval] theorem rhoHalt_n4 : (rhoHalt r p0 p mkt time acts started length running sesFlag).n 4 = p0 := rfl
@[py_eval] theorem rhoHalt_n6 : (rhoHalt r p0 p mkt time acts started length running sesFlag).n 6 = p := rfl
@[py_eval] theorem rhoHalt_b50 : (rhoHalt r p0 p mkt time acts started length running sesFlag).b 50 = running := rfl
@[py_eval] theorem rhoHalt_b80 : (rhoHalt r p0 p mkt time acts started length running sesFlag).b 80 = sesFlag := rfl
end

variable [LinearOrder K] [NumOpsC K]

section tree
open ITerm NTerm BTerm Tree

/-- Python's `abs` on a symbolic number, as the run computes it: the term chosen -/
def absT (x : NTerm) : Tree NTerm := ifT (nlt x (ofInt (lit 0))) (leaf (neg x)) (leaf x)

/-- `get_limited_price` on a limit price (num atom 1), with reference price 4 and rate 3 -/
def clipT : Tree NTerm :=
  (absT (sub (atom 1) (atom 4))).bind fun change => (absT (mul (atom 4) (atom 3))).bind fun threshold =>
    node (nle threshold change)
      (fun _ => (maxT nlt (atom 1) (mul (atom 4) (sub (ofInt (lit 1)) (atom 3)))).bind fun q =>
        minT nlt q (mul (atom 4) (add (ofInt (lit 1)) (atom 3))))
      (fun _ => leaf (atom 1))

/-- `get_limited_price` for a limit / market order, asked about market `m` -/
def glpT (limit : Bool) (m : Nat) : Tree Obs :=
  if m = 5 then (if limit then clipT.map .num else leaf .none) else raiseT "AssertionError"

/-- `PriceLimitRule.hooked_before_order` on a limit / market order: `plrObs` for an order of the target
market, of the other market, of no market (`id2market[..]` raises) -/
def plrHookT (limit : Bool) : Tree Obs :=
  node (ieq (atom 15) (lit 5))
    (fun _ =>
      if limit then clipT.bind fun q =>
        node (.not (neq (atom 1) q)) (fun _ => leaf (.tuple [.num q, .int (add (atom 30) (lit 1))]))
          (fun _ => leaf (.tuple [.num q, .int (atom 30)]))
      else leaf (.tuple [.none, .int (atom 30)]))
    (fun _ => node (ieq (atom 15) (lit 6))
      (fun _ => leaf (.tuple [if limit then .num (atom 1) else .none, .int (atom 30)]))
      (fun _ => raiseT "KeyError"))

/-- `thrObs` of a state the hook left alone, halted market / session `hm` / `hs` -/
def haltSameO (hm hs : Nat) : Obs :=
  .tuple [.bool (.atom 50), .int (atom 31), .int (atom 30), .bool (.atom 80),
    if hm = 0 then .none else .ref hm, if hs = 0 then .none else .ref hs]

/-- the halt test `abs(p0 - p) >= abs(p0 * rate * (activation_count + 1))` -/
def haltTestT (yes no : Tree Obs) : Tree Obs :=
  (absT (sub (atom 4) (atom 6))).bind fun change =>
    (absT (mul (mul (atom 4) (atom 3)) (ofInt (add (atom 30) (lit 1))))).bind fun threshold =>
      node (nle threshold change) (fun _ => yes) (fun _ => no)

/-- `TradingHaltRule.hooked_after_execution` with no halt in force: a fill on the target market, on the
other market, on no market -/
def thrAfterT : Tree Obs :=
  node (ieq (atom 95) (lit 5))
    (fun _ => node (.atom 50)
      (fun _ => haltTestT
        (leaf (.tuple [.bool (.lit false), .int (atom 51), .int (add (atom 30) (lit 1)), .bool (.lit false),
          .ref 5, .ref 8]))
        (leaf (haltSameO 0 0)))
      (fun _ => leaf (haltSameO 0 0)))
    (fun _ => node (ieq (atom 95) (lit 6)) (fun _ => leaf (haltSameO 0 0))
      (fun _ => raiseT "KeyError"))

/-- `TradingHaltRule.hooked_before_step_for_market` for the target market in session 8, the rule
holding `hm` / `hs` as halted market / session: only the halt (5, 8) is in force -/
def thrBeforeT (hm hs : Nat) : Tree Obs :=
  if hm = 5 ∧ hs = 8 then
    node (ilt (add (atom 31) (atom 32)) (atom 51))
      (fun _ => leaf (.tuple [.bool (.lit true), .int (lit 0), .int (atom 30), .bool (.lit true), .none, .none]))
      (fun _ => leaf (haltSameO 5 8))
  else leaf (haltSameO hm hs)

/-- `OrderMistakeShock.hooked_before_order` on a limit order -/
def omsT : Tree Obs :=
  let same := Obs.tuple [.bool (.atom 10), .ref 101, .int (atom 13), .num (atom 1), .none, .bool (.atom 33)]
  node (.not (.atom 33))
    (fun _ => node (ieq (atom 15) (lit 5))
      (fun _ => leaf (.tuple [.bool (nlt (ofInt (lit 0)) (atom 3)), .ref 101, .int (atom 35),
        .num (mul (atom 6) (add (ofInt (lit 1)) (atom 3))), .int (atom 34), .bool (.lit true)]))
      (fun _ => leaf same))
    (fun _ => leaf same)

/-- `FundamentalPriceShock.hooked_before_step_for_market` for market `m` -/
def fpsT (m : Nat) : Tree Obs :=
  if m = 5 then
    node (ile (atom 36) (atom 51))
      (fun _ => node (ilt (atom 51) (add (atom 36) (atom 37)))
        (fun _ => leaf (.tuple [.tuple [.str "change_fundamental_price", .ref 5,
          .num (add (ofInt (lit 1)) (atom 3))]]))
        (fun _ => raiseT "AssertionError"))
      (fun _ => raiseT "AssertionError")
  else raiseT "AssertionError"
end tree

/-- a run of the event code and the tree it is checked against (the cases below are `abbrev`s: `rw` has to see
their fields through the name) -/
structure EvCase where
  g : Except Err (Val × St) → Obs
  fn : String
  args : List Val
  st : St
  tree : Tree Obs

abbrev glpCase (limit : Bool) (m : Nat) : EvCase :=
  ⟨obs, "PriceLimitRule.get_limited_price", [.ref 3, .ref 1, .ref m], plrSt limit, glpT limit m⟩
abbrev plrHookCase (limit : Bool) : EvCase :=
  ⟨plrObs, "PriceLimitRule.hooked_before_order", [.ref 3, .ref 7, .ref 1], plrSt limit, plrHookT limit⟩
abbrev thrAfterCase : EvCase :=
  ⟨thrObs, "TradingHaltRule.hooked_after_execution", [.ref 3, .ref 7, .ref 9], thrSt 0 0, thrAfterT⟩
abbrev thrBeforeCase (hm hs : Nat) : EvCase :=
  ⟨thrObs, "TradingHaltRule.hooked_before_step_for_market", [.ref 3, .ref 7, .ref 5], thrSt hm hs, thrBeforeT hm hs⟩
abbrev omsCase : EvCase :=
  ⟨omsObs, "OrderMistakeShock.hooked_before_order", [.ref 3, .ref 7, .ref 1], omsSt true, omsT⟩
abbrev fpsCase (m : Nat) : EvCase :=
  ⟨callsObs, "FundamentalPriceShock.hooked_before_step_for_market", [.ref 3, .ref 7, .ref m], fpsSt, fpsT m⟩

def evCases : List EvCase :=
  [glpCase true 5, glpCase true 6, glpCase false 5, glpCase false 6, plrHookCase true, plrHookCase false, thrAfterCase,
   thrBeforeCase 5 8, thrBeforeCase 0 0, thrBeforeCase 6 8, thrBeforeCase 5 9, omsCase, fpsCase 5, fpsCase 6]

/-- every path of every run agrees with its tree.  One statement for all of them: each run first looks
its method up in `evProg`, a filter over the whole translated program, and within one evaluation the
kernel does that work once. -/
theorem events_agree : ∀ c ∈ evCases, agreesA [] c.g evEnv FUEL c.fn c.args c.st c.tree = true := by
  decide +kernel

theorem absT_denote (ρ : Rho K) (x : NTerm) : ((absT x).denote ρ).eval ρ = Arith.abs (x.eval ρ) := by
  by_cases h : x.eval ρ < NumOpsC.ofInt 0 <;> simp [absT, Arith.abs, py_eval, h]

theorem clipT_denote (ρ : Rho K) : (clipT.denote ρ).eval ρ = Events.clip (ρ.n 4) (ρ.n 3) (ρ.n 1) := by
  simp only [clipT, Events.clip, Tree.denote_bind, Tree.denote, BTerm.eval, absT_denote, NTerm.eval, decide_eq_true_eq]
  split
  · simp [Tree.minT_denote_num, Tree.maxT_denote_num, py_eval]
  · rfl

/-- **`get_limited_price` on a limit order of the target market is the model's `clip`** -/
theorem get_limited_price_correct (p r p0 : K) (x : Nat → Int) (y : Nat → Bool) :
    result (rhoClip p r p0 x y) evEnv FUEL "PriceLimitRule.get_limited_price" [.ref 3, .ref 1, .ref 5]
      (plrSt true) = .num (Events.clip p0 r p) := by
  rw [result, resultG_eq_of_agreeO _ (events_agree (glpCase true 5) (by simp [evCases]))]
  simp [glpT, Tree.denote_map, clipT_denote, py_eval, rhoClip]

/-- `get_limited_price` passes a market order unchanged (`None`) -/
theorem get_limited_price_market_order (p r p0 : K) (x : Nat → Int) (y : Nat → Bool) :
    result (rhoClip p r p0 x y) evEnv FUEL "PriceLimitRule.get_limited_price" [.ref 3, .ref 1, .ref 5]
      (plrSt false) = .none :=
  resultG_eq_of_agreeO _ (events_agree (glpCase false 5) (by simp [evCases]))

/-- asked about a market that is not a target, `get_limited_price` refuses (`AssertionError`) -/
theorem get_limited_price_non_target (p r p0 : K) (x : Nat → Int) (y : Nat → Bool) :
    result (rhoClip p r p0 x y) evEnv FUEL "PriceLimitRule.get_limited_price" [.ref 3, .ref 1, .ref 6]
      (plrSt true) = .err (.raise "AssertionError") :=
  resultG_eq_of_agreeO _ (events_agree (glpCase true 6) (by simp [evCases]))

/-- **`hooked_before_order` is the model's `limitHook`**, for a limit or a market order (`limit`) of
the target market (5) or the other one (6): a limit order for the target has its price replaced by
`clip`, the counter goes up iff the price changed; every other order is left alone -/
theorem plr_hook_src (limit : Bool) (p r p0 : K) (m acts : Nat) (hm : m = 5 ∨ m = 6) (y : Nat → Bool) :
    resultG plrObs (rhoHook p r p0 m acts y) evEnv FUEL "PriceLimitRule.hooked_before_order"
      [.ref 3, .ref 7, .ref 1] (plrSt limit)
      = if limit = true ∧ m = 5 then
          .tuple [.num (Events.clip p0 r p), .int (if Events.clip p0 r p = p then acts else acts + 1)]
        else .tuple [if limit then .num p else .none, .int acts] := by
  have hc : plrHookCase limit ∈ evCases := by cases limit <;> simp [evCases]
  rw [resultG_eq_of_agreeO _ (events_agree _ hc)]
  rcases hm with rfl | rfl <;> cases limit
  · simp [plrHookT, py_eval, rhoHook]
  · by_cases h : Events.clip p0 r p = p
    · simp [plrHookT, Tree.denote_bind, clipT_denote, py_eval, rhoHook, h]
    · simp [plrHookT, Tree.denote_bind, clipT_denote, py_eval, rhoHook, h, Ne.symm h]
  · simp [plrHookT, py_eval, rhoHook]
  · simp [plrHookT, py_eval, rhoHook]

theorem plr_hook_target (p r p0 : K) (acts : Nat) (y : Nat → Bool) :
    resultG plrObs (rhoHook p r p0 5 acts y) evEnv FUEL "PriceLimitRule.hooked_before_order"
      [.ref 3, .ref 7, .ref 1] (plrSt true)
      = .tuple [.num ((Events.limitHook [5] (fun _ => p0) r 5 (some p)).getD p),
                .int (if Events.clip p0 r p = p then acts else acts + 1)] :=
  (plr_hook_src true p r p0 5 acts (.inl rfl) y).trans (by simp [Events.limitHook])

theorem plr_hook_other_market (p r p0 : K) (acts : Nat) (y : Nat → Bool) :
    resultG plrObs (rhoHook p r p0 6 acts y) evEnv FUEL "PriceLimitRule.hooked_before_order"
      [.ref 3, .ref 7, .ref 1] (plrSt true)
      = .tuple [.num ((Events.limitHook [5] (fun _ => p0) r 6 (some p)).getD p), .int acts] :=
  (plr_hook_src true p r p0 6 acts (.inr rfl) y).trans (by simp [Events.limitHook])

theorem plr_hook_market_order (p r p0 : K) (m acts : Nat) (hm : m = 5 ∨ m = 6) (y : Nat → Bool) :
    resultG plrObs (rhoHook p r p0 m acts y) evEnv FUEL "PriceLimitRule.hooked_before_order"
      [.ref 3, .ref 7, .ref 1] (plrSt false) = .tuple [.none, .int acts] :=
  (plr_hook_src false p r p0 m acts hm y).trans (by simp)

theorem haltTestT_denote (r p0 p : K) (mkt time acts started length : Nat) (running sesFlag : Bool)
    (yes no : Tree Obs) :
    (haltTestT yes no).denote (rhoHalt r p0 p mkt time acts started length running sesFlag) =
      if Events.haltTest p0 r p acts then
        yes.denote (rhoHalt r p0 p mkt time acts started length running sesFlag)
      else no.denote (rhoHalt r p0 p mkt time acts started length running sesFlag) := by
  simp [haltTestT, Events.haltTest, Tree.denote_bind, absT_denote, py_eval]

/-- **`hooked_after_execution` is the model's `haltAfterFill` with `haltTest`**, for a fill on the
target market (5) or on the other one (6) -/
theorem thr_after_src (r p0 p : K) (mkt time acts started length : Nat) (hm : mkt = 5 ∨ mkt = 6)
    (running sesFlag : Bool) :
    resultG thrObs (rhoHalt r p0 p mkt time acts started length running sesFlag) evEnv FUEL
      "TradingHaltRule.hooked_after_execution" [.ref 3, .ref 7, .ref 9] (thrSt 0 0)
      = (let s : Events.HaltState := { halted := none, startedAt := started, activations := acts }
         let r' := Events.haltAfterFill [5] s mkt running (Events.haltTest p0 r p acts) time
         .tuple [.bool (if r'.2 then false else running), .int r'.1.startedAt, .int r'.1.activations,
                 .bool (if r'.2 then false else sesFlag),
                 (if r'.2 then .ref 5 else .none), (if r'.2 then .ref 8 else .none)]) := by
  rw [resultG_eq_of_agreeO _ (events_agree thrAfterCase (by simp [evCases]))]
  rcases hm with rfl | rfl
  · cases running <;> cases h : Events.haltTest p0 r p acts <;>
      simp [thrAfterT, haltTestT_denote, haltSameO, py_eval, Events.haltAfterFill, h]
  · simp [thrAfterT, haltSameO, py_eval, Events.haltAfterFill]

/-- a fill on a market that is not a target changes nothing -/
theorem thr_after_execution_other_market (r p0 p : K) (time acts started length : Nat) (running sesFlag : Bool) :
    resultG thrObs (rhoHalt r p0 p 6 time acts started length running sesFlag) evEnv FUEL
      "TradingHaltRule.hooked_after_execution" [.ref 3, .ref 7, .ref 9] (thrSt 0 0)
      = .tuple [.bool running, .int started, .int acts, .bool sesFlag, .none, .none] :=
  (thr_after_src r p0 p 6 time acts started length (.inr rfl) running sesFlag).trans
    (by simp [Events.haltAfterFill])

/-- dispatched for a market other than its target the shock refuses -/
theorem fps_hook_other_market (rate : K) (time trigger length : Nat) :
    ∃ e, resultG callsObs (rhoFps rate time trigger length) evEnv FUEL
      "FundamentalPriceShock.hooked_before_step_for_market" [.ref 3, .ref 7, .ref 6] fpsSt = .err e :=
  ⟨_, resultG_eq_of_agreeO _ (events_agree (fpsCase 6) (by simp [evCases]))⟩

end Pams.Src
