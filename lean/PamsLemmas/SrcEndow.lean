/-
`Agent.setup` (with `set_market_accessible`, `set_asset_volume`, `is_market_accessible` and the translated
`JsonRandom.random` below it) and `update_asset_volume` / `update_cash_amount` / `get_asset_volume` as they
stand in /repo (translated: `PamsGen.Code`): the endowment an agent starts from — by symbolic execution.

Setting: an agent (address 1, class `Agent`, no market accessible yet) with its generator at 2; the settings
give `cashAmount` = num atom 10 and `assetVolume` = num atom 11 (plain numbers: no draw is made); the
accessible market ids are 0 and 1.
-/
import PamsLemmas.Agree
import PamsGen.Code
import PamsLemmas.SrcOrder

namespace Pams.Src
open Pams Pams.Py

variable {K : Type}

def endowAgent (vols : Val) : String → Option Val
  | "__class__" => some (.str "Agent")
  | "prng" => some (.ref 2)
  | "asset_volumes" => some vols
  | "cash_amount" => some (.num (.atom 12))
  | _ => none

def endowSt (vols : Val) : St :=
  { heap := fun a => if a = 1 then endowAgent vols else if a = 40 then (fun f => match f with
      | "__class__" => some (.str "JsonRandom") | "prng" => some (.ref 2) | _ => none) else fun _ => none,
    calls := [] }

/-- `JsonRandom(prng=…)` answers the generator wrapper at address 40 -/
def endowExt : Ext := fun st recv fn args =>
  match recv, fn, args with
  | .none, "JsonRandom", [.ref 2] => some (.ref 40, st)
  | _, _, _ => none

def endowEnv : Env := { prog := PamsGen.Code.prog, globals := globals, ext := endowExt, mro := PamsGen.Code.mroOf }

/-- cash and holdings afterwards, and the extern calls made -/
def endowObs : Except Py.Err (Val × St) → Obs
  | .ok (v, st) =>
    .tuple [Obs.ofVal v, Obs.ofOpt (st.heap 1 "cash_amount"),
            (match st.heap 1 "asset_volumes" with
             | some (.dict ks vs) => .tuple [.tuple (ks.map Obs.ofVal), .tuple (vs.map Obs.ofVal)] | _ => .absent),
            .tuple (st.calls.reverse.map (fun c => Obs.str c.fn))]
  | .error e => .err e

def settingsVal (cash vol : Bool) : Val :=
  .dict ((if cash then [.str "cashAmount"] else []) ++ (if vol then [.str "assetVolume"] else []))
        ((if cash then [.num (.atom 10)] else []) ++ (if vol then [.num (.atom 11)] else []))

def rhoEndow (cash vol old : K) (hold delta : Int) : Rho K :=
  { i := fun k => if k = 20 then hold else delta
    n := fun k => if k = 10 then cash else if k = 11 then vol else old
    b := fun _ => false }

section
variable (cash vol old : K) (hold delta : Int)
@[py_eval] theorem rhoEndow_n10 : (rhoEndow cash vol old hold delta).n 10 = cash := rfl
@[py_eval] theorem rhoEndow_n11 : (rhoEndow cash vol old hold delta).n 11 = vol := rfl
end

variable [LinearOrder K] [NumOpsC K]

/-- `int(x)` of Python: truncation toward zero -/
def truncInt (x : K) : Int := if x < PyNum.ofInt 0 then PyNum.ceil x else PyNum.floor x

section
open ITerm NTerm BTerm Tree

/-- `Agent.setup` done: cash num atom 10, `v` shares in markets 0 and 1, three plain numbers read -/
def setupO (v : ITerm) : Obs :=
  .tuple [.none, .num (atom 10), .tuple [.tuple [.int (lit 0), .int (lit 1)], .tuple [.int v, .int v]],
          .tuple [.str "JsonRandom", .str "JsonRandom", .str "JsonRandom"]]

/-- `int(assetVolume)`, read off num atom 11: `ceil` below zero, else `floor` (`truncInt`) -/
def setupT : Tree Obs :=
  node (nlt (atom 11) (ofInt (lit 0))) (fun _ => leaf (setupO (ceil (atom 11)))) (fun _ => leaf (setupO (floor (atom 11))))

/-- the settings, the accessible market ids, and the tree `Agent.setup` is checked against -/
def agentSetupCases : List (Val × List Int × Tree Obs) :=
  [(settingsVal true true, [0, 1], setupT), (settingsVal false true, [0, 1], raiseT "ValueError"),
   (settingsVal true false, [0, 1], raiseT "ValueError"), (settingsVal true true, [0, 0], raiseT "ValueError")]

theorem agent_setup_agree : ∀ c ∈ agentSetupCases,
    agreesP endowObs endowEnv FUEL "Agent.setup" [.ref 1, c.1, .list (c.2.1.map fun i => .int (lit i))]
      (endowSt (.dict [] [])) c.2.2 = true := by
  decide +kernel
end

/-- **the endowment**: cash is the configured amount, every accessible market is made accessible once and
holds `int(assetVolume)` (truncated toward zero), nothing else is accessible, and no random draw is made for
plain numbers -/
theorem endow_src_setup (cash vol old : K) (hold delta : Int) :
    resultG endowObs (rhoEndow cash vol old hold delta) endowEnv FUEL "Agent.setup"
        [.ref 1, settingsVal true true, .list [.int (.lit 0), .int (.lit 1)]] (endowSt (.dict [] []))
      = .tuple [.none, .num cash, .tuple [.tuple [.int 0, .int 1], .tuple [.int (truncInt vol), .int (truncInt vol)]],
                .tuple [.str "JsonRandom", .str "JsonRandom", .str "JsonRandom"]] := by
  refine (resultG_eq_of_agreeP _
    (agent_setup_agree (settingsVal true true, [0, 1], setupT) (by simp [agentSetupCases]))).trans ?_
  by_cases h : vol < NumOpsC.ofInt 0 <;> simp [setupT, setupO, truncInt, py_eval, h]

/-- a missing `cashAmount` or `assetVolume` is refused; so is a market id listed twice -/
theorem endow_src_refusals (cash vol old : K) (hold delta : Int) :
    resultG endowObs (rhoEndow cash vol old hold delta) endowEnv FUEL "Agent.setup"
        [.ref 1, settingsVal false true, .list [.int (.lit 0), .int (.lit 1)]] (endowSt (.dict [] [])) = .err (.raise "ValueError") ∧
    resultG endowObs (rhoEndow cash vol old hold delta) endowEnv FUEL "Agent.setup"
        [.ref 1, settingsVal true false, .list [.int (.lit 0), .int (.lit 1)]] (endowSt (.dict [] [])) = .err (.raise "ValueError") ∧
    resultG endowObs (rhoEndow cash vol old hold delta) endowEnv FUEL "Agent.setup"
        [.ref 1, settingsVal true true, .list [.int (.lit 0), .int (.lit 0)]] (endowSt (.dict [] [])) = .err (.raise "ValueError") :=
  ⟨resultG_eq_of_agreeP _
      (agent_setup_agree (settingsVal false true, [0, 1], .raiseT "ValueError") (by simp [agentSetupCases])),
    resultG_eq_of_agreeP _
      (agent_setup_agree (settingsVal true false, [0, 1], .raiseT "ValueError") (by simp [agentSetupCases])),
    resultG_eq_of_agreeP _
      (agent_setup_agree (settingsVal true true, [0, 0], .raiseT "ValueError") (by simp [agentSetupCases]))⟩

/-- the agent with markets 0 and 1 accessible, holding int atoms 20 and 21 -/
def holdVols : Val := .dict [.int (.lit 0), .int (.lit 1)] [.int (.atom 20), .int (.atom 21)]

def rhoHold (h0 h1 delta : Int) (cash d : K) : Rho K :=
  { i := fun k => if k = 20 then h0 else if k = 21 then h1 else delta
    n := fun k => if k = 12 then cash else d
    b := fun _ => false }

section
open ITerm NTerm Tree

/-- what `endowObs` shows of the agent of `holdVols`: the value returned, the cash, the position in market 1 -/
def holdO (ret : Obs) (cash : NTerm) (h1 : ITerm) : Obs :=
  .tuple [ret, .num cash, .tuple [.tuple [.int (lit 0), .int (lit 1)], .tuple [.int (atom 20), .int h1]], .tuple []]

/-- method, arguments, and what the one path of the run on the agent of `holdVols` shows -/
def holdCases : List (String × List Val × Tree Obs) :=
  [("Agent.get_asset_volume", [.int (lit 1)], leaf (holdO (.int (atom 21)) (atom 12) (atom 21))),
   ("Agent.get_asset_volume", [.int (lit 2)], raiseT "ValueError"),
   ("Agent.update_asset_volume", [.int (lit 1), .int (atom 30)], leaf (holdO .none (atom 12) (add (atom 21) (atom 30)))),
   ("Agent.update_asset_volume", [.int (lit 2), .int (atom 30)], raiseT "ValueError"),
   ("Agent.update_cash_amount", [.num (atom 13)], leaf (holdO .none (add (atom 12) (atom 13)) (atom 21)))]

theorem hold_agree : ∀ c ∈ holdCases,
    agreesP endowObs endowEnv FUEL c.1 (.ref 1 :: c.2.1) (endowSt holdVols) c.2.2 = true := by
  decide +kernel
end

/-- **holdings are read and changed per accessible market only**: `get_asset_volume` answers the position of an
accessible market and refuses any other; `update_asset_volume` adds the delta to that market's position and
touches nothing else; `update_cash_amount` adds the delta to the cash -/
theorem endow_src_holdings (h0 h1 delta : Int) (cash d : K) :
    resultG endowObs (rhoHold h0 h1 delta cash d) endowEnv FUEL "Agent.get_asset_volume" [.ref 1, .int (.lit 1)] (endowSt holdVols)
      = .tuple [.int h1, .num cash, .tuple [.tuple [.int 0, .int 1], .tuple [.int h0, .int h1]], .tuple []] ∧
    resultG endowObs (rhoHold h0 h1 delta cash d) endowEnv FUEL "Agent.get_asset_volume" [.ref 1, .int (.lit 2)] (endowSt holdVols)
      = .err (.raise "ValueError") ∧
    resultG endowObs (rhoHold h0 h1 delta cash d) endowEnv FUEL "Agent.update_asset_volume" [.ref 1, .int (.lit 1), .int (.atom 30)] (endowSt holdVols)
      = .tuple [.none, .num cash, .tuple [.tuple [.int 0, .int 1], .tuple [.int h0, .int (h1 + delta)]], .tuple []] ∧
    resultG endowObs (rhoHold h0 h1 delta cash d) endowEnv FUEL "Agent.update_asset_volume" [.ref 1, .int (.lit 2), .int (.atom 30)] (endowSt holdVols)
      = .err (.raise "ValueError") ∧
    resultG endowObs (rhoHold h0 h1 delta cash d) endowEnv FUEL "Agent.update_cash_amount" [.ref 1, .num (.atom 13)] (endowSt holdVols)
      = .tuple [.none, .num (cash + d), .tuple [.tuple [.int 0, .int 1], .tuple [.int h0, .int h1]], .tuple []] :=
  ⟨resultG_eq_of_agreeP _ (hold_agree ("Agent.get_asset_volume", [.int (.lit 1)],
      .leaf (holdO (.int (.atom 21)) (.atom 12) (.atom 21))) (by simp [holdCases])),
    resultG_eq_of_agreeP _ (hold_agree ("Agent.get_asset_volume", [.int (.lit 2)], .raiseT "ValueError")
      (by simp [holdCases])),
    resultG_eq_of_agreeP _ (hold_agree ("Agent.update_asset_volume", [.int (.lit 1), .int (.atom 30)],
      .leaf (holdO .none (.atom 12) (.add (.atom 21) (.atom 30)))) (by simp [holdCases])),
    resultG_eq_of_agreeP _ (hold_agree ("Agent.update_asset_volume", [.int (.lit 2), .int (.atom 30)],
      .raiseT "ValueError") (by simp [holdCases])),
    resultG_eq_of_agreeP _ (hold_agree ("Agent.update_cash_amount", [.num (.atom 13)],
      .leaf (holdO .none (.add (.atom 12) (.atom 13)) (.atom 21))) (by simp [holdCases]))⟩

end Pams.Src
