/-
`Market._execution` of the current source = the model's `Market.execution`, on every book holding one
buy and one sell order (see SrcMarketDefs.lean for the setting, SrcMarketModel.lean for `round11`).
-/
import PamsLemmas.SrcMarketModel

namespace Pams.Src
open Pams Pams.Py
variable {K : Type}

section
variable (m : Market K) (a b : Order K) (d : K)
@[py_eval] theorem rhoM_i10 : (rhoM m a b d).i 10 = a.id := rfl
@[py_eval] theorem rhoM_i11 : (rhoM m a b d).i 11 = a.placedAt := rfl
@[py_eval] theorem rhoM_i12 : (rhoM m a b d).i 12 = a.agent := rfl
@[py_eval] theorem rhoM_i13 : (rhoM m a b d).i 13 = a.vol := rfl
@[py_eval] theorem rhoM_i20 : (rhoM m a b d).i 20 = b.id := rfl
@[py_eval] theorem rhoM_i21 : (rhoM m a b d).i 21 = b.placedAt := rfl
@[py_eval] theorem rhoM_i22 : (rhoM m a b d).i 22 = b.agent := rfl
@[py_eval] theorem rhoM_i23 : (rhoM m a b d).i 23 = b.vol := rfl
@[py_eval] theorem rhoM_i54 : (rhoM m a b d).i 54 = m.cur.execVol := rfl
@[py_eval] theorem rhoM_n1 : (rhoM m a b d).n 1 = a.price.getD d := rfl
@[py_eval] theorem rhoM_n2 : (rhoM m a b d).n 2 = b.price.getD d := rfl
@[py_eval] theorem rhoM_n51 : (rhoM m a b d).n 51 = m.cur.turnover := rfl
@[py_eval] theorem rhoM_n52 : (rhoM m a b d).n 52 = m.cur.last.getD d := rfl
@[py_eval] theorem rhoM_n53 : (rhoM m a b d).n 53 = m.cur.market.getD d := rfl
@[py_eval] theorem rhoM_n54 : (rhoM m a b d).n 54 = m.cur.mid.getD d := rfl
@[py_eval] theorem rhoM_b50 : (rhoM m a b d).b 50 = m.running := rfl
end

variable [LinearOrder K] [NumOpsC K]

/-! ### the round as a decision tree over the atoms of `st11`

in the order in which the source asks: are the two limit prices crossed, is a volume zero, which
order came first (that fixes the price), is the market running, which order is the smaller one.
The tests `volume ≤ 0` and `lower id / higher id / neither` are the source's own. -/
section tree
open ITerm NTerm BTerm Tree

def fillT (p : NTerm) (v ra rb : ITerm) (qa qb : List Obs) : Tree Obs :=
  leaf (.tuple [.tuple [.tuple [.num p, .int v, .int (atom 10), .int (atom 20), .int (atom 12), .int (atom 22),
                                 .int (lit 0)]],
                .int ra, .int rb, .tuple qa, .tuple qb, .tuple [.num p], .tuple [.int (add (atom 54) v)],
                .tuple [.num (add (atom 51) (mul (ofInt v) p))], .tuple [.none], .tuple [.num p]])

def tradeT (p : NTerm) : Tree Obs :=
  node (BTerm.atom 50)
    (fun _ => node (ilt (atom 23) (atom 13))
      (fun _ => node (ile (atom 23) (lit 0)) (fun _ => raiseT "AssertionError")
        (fun _ => fillT p (atom 23) (sub (atom 13) (atom 23)) (lit 0) [.ref 1] []))
      (fun _ => node (ile (atom 13) (lit 0)) (fun _ => raiseT "AssertionError")
        (fun _ => node (ieq (atom 23) (atom 13))
          (fun _ => fillT p (atom 13) (lit 0) (sub (atom 23) (atom 13)) [] [])
          (fun _ => fillT p (atom 13) (lit 0) (sub (atom 23) (atom 13)) [] [.ref 2]))))
    (fun _ => raiseT "AssertionError")

def priceT (lb ls : Bool) : Tree Obs := (pairT (ordAt 1 lb) (ordAt 2 ls)).bind (atPriceT tradeT)

def volT (lb ls : Bool) : Tree Obs :=
  node (ieq (atom 13) (lit 0)) (fun _ => raiseT "AssertionError")
    (fun _ => node (ieq (atom 23) (lit 0)) (fun _ => raiseT "AssertionError") (fun _ => priceT lb ls))

def round11T (hasLast hasMid lb ls : Bool) : Tree Obs :=
  if lb && ls then
    node (nlt (atom 1) (atom 2))
      (fun _ => leaf (.tuple [.tuple [], .int (atom 13), .int (atom 23), .tuple [.ref 1], .tuple [.ref 2],
        .tuple [Obs.ofVal (optNum hasLast 52)], .tuple [.int (atom 54)], .tuple [.num (atom 51)],
        .tuple [Obs.ofVal (optNum hasMid 54)], .tuple [.num (atom 53)]]))
      (fun _ => volT lb ls)
  else volT lb ls
end tree

theorem exec11_agree : ∀ hasLast hasMid lb ls : Bool, (lb || ls) = true →
    agreesA [] execObs env XFUEL "Market._execution" [.ref 5] (st11 hasLast hasMid lb ls)
      (round11T hasLast hasMid lb ls) = true := by
  decide +kernel

section denote
variable (m : Market K) (a b : Order K) (d : K)

theorem tradeT_denote (p : NTerm) (hva : a.vol ≠ 0) (hvb : b.vol ≠ 0) (ht : m.time = 0) :
    ((tradeT p).denote (rhoM m a b d)).eval (rhoM m a b d) =
      if m.running = false then .err (.raise "AssertionError") else fill11 m a b (p.eval (rhoM m a b d)) := by
  by_cases hr : m.running = true
  · rcases Nat.lt_trichotomy a.vol b.vol with h | h | h
    · have hmin : min a.vol b.vol = a.vol := by omega
      simp [py_eval, tradeT, fillT, fill11, hr, ht, h, hva, Nat.lt_asymm, Nat.ne_of_gt, hmin]
      omega
    · simp [py_eval, tradeT, fillT, fill11, hr, ht, h, hvb]
    · have hmin : min a.vol b.vol = b.vol := by omega
      simp [py_eval, tradeT, fillT, fill11, hr, ht, h, hvb, hmin]
      omega
  · simp [py_eval, tradeT, hr]

theorem ord1_reads : (ordAt 1 a.price.isSome).reads (rhoM m a b d) a := ⟨optAtom_eval _ _ 1 (d := d) rfl, rfl, rfl⟩
theorem ord2_reads : (ordAt 2 b.price.isSome).reads (rhoM m a b d) b := ⟨optAtom_eval _ _ 2 (d := d) rfl, rfl, rfl⟩

theorem priceT_denote (hva : a.vol ≠ 0) (hvb : b.vol ≠ 0) (ht : m.time = 0) (hid : a.id ≠ b.id) :
    ((priceT a.price.isSome b.price.isSome).denote (rhoM m a b d)).eval (rhoM m a b d) =
      atPrice (pairPrice a b) fun price =>
        if m.running = false then .err (.raise "AssertionError") else fill11 m a b price := by
  rw [priceT, Tree.denote_bind,
    atPriceT_denote _ (fun price => if m.running = false then .err (.raise "AssertionError") else fill11 m a b price)
      fun p => tradeT_denote m a b d p hva hvb ht,
    pairT_denote (ord1_reads m a b d) (ord2_reads m a b d) hid]

theorem volT_denote (ht : m.time = 0) (hid : a.id ≠ b.id) (hex : remainExecutable [a] [b] = true) :
    ((volT a.price.isSome b.price.isSome).denote (rhoM m a b d)).eval (rhoM m a b d) = round11 m a b := by
  simp only [volT, round11, hex, Bool.true_eq_false, if_false, py_eval, decide_eq_true_eq]
  by_cases hva : a.vol = 0
  · simp [hva, py_eval]
  · by_cases hvb : b.vol = 0
    · simp [hva, hvb, py_eval]
    · simp only [hva, hvb, hid, if_false, or_self]
      exact priceT_denote m a b d hva hvb ht hid

theorem round11T_denote (mp : K) (ht : m.time = 0) (hmk : m.cur.market = some mp) (hid : a.id ≠ b.id)
    (hnn : ¬ (a.price = none ∧ b.price = none)) :
    ((round11T m.cur.last.isSome m.cur.mid.isSome a.price.isSome b.price.isSome).denote (rhoM m a b d)).eval
        (rhoM m a b d) = round11 m a b := by
  have hv := volT_denote m a b d ht hid
  unfold round11T
  rcases hpa : a.price with _ | pa <;> rcases hpb : b.price with _ | pb <;> simp only [hpa, hpb] at hv
  · exact absurd ⟨hpa, hpb⟩ hnn
  · exact hv (by simp [remainExecutable, hpa, hpb])
  · exact hv (by simp [remainExecutable, hpa, hpb])
  · simp only [Option.isSome_some, Bool.and_self, if_true, py_eval, hpa, hpb, Option.getD_some, decide_eq_true_eq]
    by_cases hc : pa < pb
    · have hex : remainExecutable [a] [b] = false := by simp [remainExecutable, hpa, hpb, hc]
      rcases hl : m.cur.last with _ | lp <;> rcases hm : m.cur.mid with _ | md <;>
        simp [hc, round11, hex, idle11, py_eval, optNum, Obs.ofVal, cOpt, hl, hm, hmk]
    · rw [if_neg hc]
      exact hv (by simpa [remainExecutable, hpa, hpb] using hc)

end denote

theorem execution_src_round (m : Market K) (a b : Order K) (mp dflt : K)
    (hnn : ¬ (a.price = none ∧ b.price = none)) (ht : m.time = 0)
    (hmk : m.cur.market = some mp) (hid : a.id ≠ b.id) :
    resultG execObs (rhoM m a b dflt) env XFUEL "Market._execution" [.ref 5]
        (st11 m.cur.last.isSome m.cur.mid.isSome a.price.isSome b.price.isSome) = round11 m a b := by
  rw [← round11T_denote m a b dflt mp ht hmk hid hnn]
  refine resultG_eq_of_agreeO _ (exec11_agree _ _ _ _ ?_)
  cases hpa : a.price <;> cases hpb : b.price <;> simp_all

-- `ha hbb` name the sides of `a` and `b`; neither the model's round nor the source's asks for them
set_option linter.unusedVariables false in
/-- **`Market._execution` of the current source is the model's `Market.execution`** on every book of
one buy order `a` and one sell order `b` (not both market orders) of a market in its first step:
for all prices, volumes, ids, acceptance times, agents, step statistics and both values of the
running flag, the fills returned, the volumes left on the two orders, the two queues and the five
series of the step are exactly what the model computes; every model `Err` is an `AssertionError`. -/
theorem execution_src (m : Market K) (a b : Order K) (mp dflt : K)
    (hb : m.buys = [a]) (hs : m.sells = [b]) (ha : a.isBuy = true) (hbb : b.isBuy = false)
    (hnn : ¬ (a.price = none ∧ b.price = none)) (ht : m.time = 0)
    (hmk : m.cur.market = some mp) (hid : a.id ≠ b.id) :
    resultG execObs (rhoM m a b dflt) env XFUEL "Market._execution" [.ref 5]
        (st11 m.cur.last.isSome m.cur.mid.isSome a.price.isSome b.price.isSome)
      = modelObs a b (Market.execution (srcOps K) m) := by
  rw [model_round11 m a b hb hs hnn]
  exact execution_src_round m a b mp dflt hnn ht hmk hid

end Pams.Src
