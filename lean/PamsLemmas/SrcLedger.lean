/-
`Simulator._update_agents_for_execution` as it stands in /repo (translated: `PamsGen.Code`) is the
model's ledger fold `Ledger.applyFills` — by symbolic execution of the source.

Setting: two agents (ids 1 and 2, objects at addresses 21 and 22) holding cash (num atoms 21, 22) and
positions in markets 0 and 1 (int atoms 210, 211, 220, 221); the execution logs live at addresses 30
and 31 (price: num atoms 30 / 31, volume: int atoms 300 / 310); who buys, who sells and on which market
is the *shape* (ids are dictionary keys), everything else is quantified.  A self-trade (buyer = seller)
is one of the shapes: the four updates go through one object.
-/
import PamsLemmas.Agree
import PamsGen.Code
import PamsModel.Ledger
import PamsLemmas.SrcOrder

namespace Pams.Src
open Pams Pams.Py

variable {K : Type}

def agentObj (k : Nat) : String → Option Val
  | "__class__" => some (.str "Agent")
  | "agent_id" => some (.int (.lit k))
  | "cash_amount" => some (.num (.atom (20 + k)))
  | "asset_volumes" => some (.dict [.int (.lit 0), .int (.lit 1)] [.int (.atom (200 + 10 * k)), .int (.atom (201 + 10 * k))])
  | _ => none

def ledgerSim : String → Option Val
  | "__class__" => some (.str "Simulator")
  | "id2agent" => some (.dict [.int (.lit 1), .int (.lit 2)] [.ref 21, .ref 22])
  | _ => none

def fillLog (k : Nat) (buyer seller market : Nat) : String → Option Val
  | "__class__" => some (.str "ExecutionLog")
  | "buy_agent_id" => some (.int (.lit buyer))
  | "sell_agent_id" => some (.int (.lit seller))
  | "market_id" => some (.int (.lit market))
  | "price" => some (.num (.atom (30 + k)))
  | "volume" => some (.int (.atom (300 + 10 * k)))
  | _ => none

/-- the heap: the simulator at 7, the agents at 21 / 22, the logs at 30 / 31 -/
def ledgerHeap (b0 s0 m0 b1 s1 m1 : Nat) : Nat → String → Option Val :=
  fun addr => if addr = 7 then ledgerSim else if addr = 21 then agentObj 1 else if addr = 22 then agentObj 2
    else if addr = 30 then fillLog 0 b0 s0 m0 else if addr = 31 then fillLog 1 b1 s1 m1 else fun _ => none

def ledgerSt (b0 s0 m0 b1 s1 m1 : Nat) : St := { heap := ledgerHeap b0 s0 m0 b1 s1 m1, calls := [] }

def sharesObs (st : St) (a : Nat) : Obs :=
  match st.heap a "asset_volumes" with
  | some (.dict _ vs) => .tuple (vs.map Obs.ofVal)
  | _ => .other

/-- the holdings afterwards: cash and the two positions of each agent -/
def ledgerObs : Except Py.Err (Val × St) → Obs
  | .ok (_, st) => .tuple [Obs.ofOpt (st.heap 21 "cash_amount"), sharesObs st 21,
                           Obs.ofOpt (st.heap 22 "cash_amount"), sharesObs st 22]
  | .error e => .err e

/-- valuation: the model's book (`cash`, `shares`), and the prices and volumes of the two fills -/
def rhoLedger (cash : Nat → K) (shares : Nat → Nat → Int) (p0 p1 : K) (v0 v1 : Nat) (dflt : K) : Rho K :=
  { i := fun k => if k = 210 then shares 1 0 else if k = 211 then shares 1 1 else if k = 220 then shares 2 0
      else if k = 221 then shares 2 1 else if k = 300 then v0 else if k = 310 then v1 else 0
    n := fun k => if k = 21 then cash 1 else if k = 22 then cash 2 else if k = 30 then p0 else if k = 31 then p1 else dflt
    b := fun _ => false }

section
variable (cash : Nat → K) (shares : Nat → Nat → Int) (p0 p1 : K) (v0 v1 : Nat) (d : K)
@[py_eval] theorem rhoLedger_i210 : (rhoLedger cash shares p0 p1 v0 v1 d).i 210 = shares 1 0 := rfl
@[py_eval] theorem rhoLedger_i211 : (rhoLedger cash shares p0 p1 v0 v1 d).i 211 = shares 1 1 := rfl
@[py_eval] theorem rhoLedger_i220 : (rhoLedger cash shares p0 p1 v0 v1 d).i 220 = shares 2 0 := rfl
@[py_eval] theorem rhoLedger_i221 : (rhoLedger cash shares p0 p1 v0 v1 d).i 221 = shares 2 1 := rfl
@[py_eval] theorem rhoLedger_i300 : (rhoLedger cash shares p0 p1 v0 v1 d).i 300 = v0 := rfl
@[py_eval] theorem rhoLedger_i310 : (rhoLedger cash shares p0 p1 v0 v1 d).i 310 = v1 := rfl
@[py_eval] theorem rhoLedger_n21 : (rhoLedger cash shares p0 p1 v0 v1 d).n 21 = cash 1 := rfl
@[py_eval] theorem rhoLedger_n22 : (rhoLedger cash shares p0 p1 v0 v1 d).n 22 = cash 2 := rfl
@[py_eval] theorem rhoLedger_n30 : (rhoLedger cash shares p0 p1 v0 v1 d).n 30 = p0 := rfl
@[py_eval] theorem rhoLedger_n31 : (rhoLedger cash shares p0 p1 v0 v1 d).n 31 = p1 := rfl
end

variable [LinearOrder K] [NumOpsC K]

def bookObs (b : Ledger.Book K) : CObs K :=
  .tuple [.num (b.cash 1), .tuple [.int (b.shares 1 0), .int (b.shares 1 1)],
          .num (b.cash 2), .tuple [.int (b.shares 2 0), .int (b.shares 2 1)]]

/-- `price * volume` as the source computes it -/
def amountSrc (p : K) (v : Nat) : K := p * PyNum.ofInt v

def mkFillL (b s m : Nat) (p : K) (v : Nat) : Ledger.LFill K :=
  { buyer := b, seller := s, market := m, amount := amountSrc p v, vol := v }

/-! `Ledger.applyFill` entry by entry: an agent's cash, and a position, after a fill depend on that entry
alone. -/
section
variable {R : Type} (sub add : R → R → R) (bk : Ledger.Book R) (f : Ledger.LFill R)

theorem applyFill_cash (a : Nat) :
    (Ledger.applyFill sub add bk f).cash a =
      if a = f.seller then add (if a = f.buyer then sub (bk.cash a) f.amount else bk.cash a) f.amount
      else if a = f.buyer then sub (bk.cash a) f.amount else bk.cash a := by
  unfold Ledger.applyFill Ledger.setCash
  by_cases hs : a = f.seller
  · subst hs
    simp only [if_true]
    by_cases hb : f.seller = f.buyer
    · rw [hb]
    · simp only [hb, if_false]
  · simp only [hs, if_false]
    by_cases hb : a = f.buyer
    · subst hb
      rfl
    · simp only [hb, if_false]

theorem applyFill_shares (a m : Nat) :
    (Ledger.applyFill sub add bk f).shares a m =
      if a = f.seller ∧ m = f.market then
        (if a = f.buyer ∧ m = f.market then bk.shares a m + f.vol else bk.shares a m) - f.vol
      else if a = f.buyer ∧ m = f.market then bk.shares a m + f.vol else bk.shares a m := by
  unfold Ledger.applyFill Ledger.setShares
  by_cases hs : a = f.seller ∧ m = f.market
  · obtain ⟨rfl, rfl⟩ := hs
    simp only [and_self, and_true, if_true]
    by_cases hb : f.seller = f.buyer
    · rw [hb]
    · simp only [hb, if_false]
  · simp only [hs, if_false]
    by_cases hb : a = f.buyer ∧ m = f.market
    · obtain ⟨rfl, rfl⟩ := hb
      rfl
    · simp only [hb, if_false]
end

/-! the same two updates on terms: what the fill recorded in log `k` (price atom `30 + k`, volume atom
`300 + 10 k`; buyer `b`, seller `s`, market `m`) makes of the cash `c` of agent `a` and of its position
`x` in market `j` -/
def cashN (k b s a : Nat) (c : NTerm) : NTerm :=
  let amount := NTerm.mul (.atom (30 + k)) (.ofInt (.atom (300 + 10 * k)))
  if a = s then .add (if a = b then .sub c amount else c) amount else if a = b then .sub c amount else c

def sharesI (k b s m a j : Nat) (x : ITerm) : ITerm :=
  let vol := ITerm.atom (300 + 10 * k)
  if a = s ∧ j = m then .sub (if a = b ∧ j = m then .add x vol else x) vol
  else if a = b ∧ j = m then .add x vol else x

/-- what `ledgerObs` shows after the fills `fs` (log, buyer, seller, market), applied in order to the
holdings of `ledgerSt` -/
def fillsO (fs : List (Nat × Nat × Nat × Nat)) : Obs :=
  let cash (a : Nat) := fs.foldl (fun c f => cashN f.1 f.2.1 f.2.2.1 a c) (.atom (20 + a))
  let pos (a j : Nat) := fs.foldl (fun x f => sharesI f.1 f.2.1 f.2.2.1 f.2.2.2 a j x) (.atom (200 + 10 * a + j))
  .tuple [.num (cash 1), .tuple [.int (pos 1 0), .int (pos 1 1)], .num (cash 2), .tuple [.int (pos 2 0), .int (pos 2 1)]]

/-- the runs checked — the logs passed, the state, the fills (log, buyer, seller, market) they record: one fill
between any two of the agents (also one agent with itself) on either market, and two lists of two fills -/
def ledgerCases : List (List Val × St × List (Nat × Nat × Nat × Nat)) :=
  ([1, 2].flatMap fun b => [1, 2].flatMap fun s => [0, 1].map fun m =>
    ([.ref 30], ledgerSt b s m 1 2 0, [(0, b, s, m)])) ++
  [([.ref 30, .ref 31], ledgerSt 1 2 0 2 1 0, [(0, 1, 2, 0), (1, 2, 1, 0)]),
   ([.ref 30, .ref 31], ledgerSt 1 2 1 1 1 1, [(0, 1, 2, 1), (1, 1, 1, 1)])]

theorem ledger_agree : ∀ c ∈ ledgerCases,
    agreesP ledgerObs env FUEL "Simulator._update_agents_for_execution" [.ref 7, .list c.1] c.2.1
      (Tree.leaf (fillsO c.2.2)) = true := by
  decide +kernel

/-- **one fill** (buyer `b`, seller `s` ∈ {1, 2} — equal for a self-trade —, market `mk` ∈ {0, 1}; any price,
volume and holdings): the current source of `_update_agents_for_execution` leaves exactly the holdings
`Ledger.applyFill` computes — buyer cash − price·volume, seller cash + price·volume, buyer shares +
volume, seller shares − volume, nothing else touched. -/
theorem ledger_src_one (b s mk : Nat) (hb : b = 1 ∨ b = 2) (hs : s = 1 ∨ s = 2) (hm : mk = 0 ∨ mk = 1)
    (cash : Nat → K) (shares : Nat → Nat → Int) (p0 p1 : K) (v0 v1 : Nat) (dflt : K) :
    resultG ledgerObs (rhoLedger cash shares p0 p1 v0 v1 dflt) env FUEL "Simulator._update_agents_for_execution"
        [.ref 7, .list [.ref 30]] (ledgerSt b s mk 1 2 0)
      = bookObs (Ledger.applyFills (· - ·) (· + ·) { cash := cash, shares := shares } [mkFillL b s mk p0 v0]) := by
  have hc : ([.ref 30], ledgerSt b s mk 1 2 0, [(0, b, s, mk)]) ∈ ledgerCases := by
    rcases hb with rfl | rfl <;> rcases hs with rfl | rfl <;> rcases hm with rfl | rfl <;> simp [ledgerCases]
  rw [resultG_eq_of_agreeP _ (ledger_agree _ hc)]
  simp [fillsO, cashN, sharesI, py_eval, apply_ite (NTerm.eval _), apply_ite (ITerm.eval _),
    bookObs, Ledger.applyFills, applyFill_cash, applyFill_shares, mkFillL, amountSrc]

/-- **two fills in order** (1 buys from 2, then 2 buys from 1, market 0): the source is the model's
left fold over the list -/
theorem ledger_src_two (cash : Nat → K) (shares : Nat → Nat → Int) (p0 p1 : K) (v0 v1 : Nat) (dflt : K) :
    resultG ledgerObs (rhoLedger cash shares p0 p1 v0 v1 dflt) env FUEL "Simulator._update_agents_for_execution"
        [.ref 7, .list [.ref 30, .ref 31]] (ledgerSt 1 2 0 2 1 0)
      = bookObs (Ledger.applyFills (· - ·) (· + ·) { cash := cash, shares := shares }
          [mkFillL 1 2 0 p0 v0, mkFillL 2 1 0 p1 v1]) := by
  rw [resultG_eq_of_agreeP _ (ledger_agree ([.ref 30, .ref 31], ledgerSt 1 2 0 2 1 0, [(0, 1, 2, 0), (1, 2, 1, 0)])
    (by simp [ledgerCases]))]
  simp [fillsO, cashN, sharesI, py_eval, bookObs, Ledger.applyFills, applyFill_cash, applyFill_shares, mkFillL,
    amountSrc]

/-- two fills in order, the second a self-trade (1 buys from 2, then 1 from itself, market 1): the model's left
fold again -/
theorem ledger_src_two_self (cash : Nat → K) (shares : Nat → Nat → Int) (p0 p1 : K) (v0 v1 : Nat) (dflt : K) :
    resultG ledgerObs (rhoLedger cash shares p0 p1 v0 v1 dflt) env FUEL "Simulator._update_agents_for_execution"
        [.ref 7, .list [.ref 30, .ref 31]] (ledgerSt 1 2 1 1 1 1)
      = bookObs (Ledger.applyFills (· - ·) (· + ·) { cash := cash, shares := shares }
          [mkFillL 1 2 1 p0 v0, mkFillL 1 1 1 p1 v1]) := by
  rw [resultG_eq_of_agreeP _ (ledger_agree ([.ref 30, .ref 31], ledgerSt 1 2 1 1 1 1, [(0, 1, 2, 1), (1, 1, 1, 1)])
    (by simp [ledgerCases]))]
  simp [fillsO, cashN, sharesI, py_eval, bookObs, Ledger.applyFills, applyFill_cash, applyFill_shares, mkFillL,
    amountSrc]

end Pams.Src
