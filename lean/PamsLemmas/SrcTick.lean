/-
`Market._update_time` of the current source = the model's `Market.tick` (see SrcTickDefs.lean for the
setting): a clock step with expiry.
-/
import PamsLemmas.SrcTickDefs

namespace Pams.Src
open Pams Pams.Py
variable {K : Type}

section
variable (m : Market K) (a c : Order K) (fund d : K)
@[py_eval] theorem rhoTick_i10 : (rhoTick m a c fund d).i 10 = a.id := rfl
@[py_eval] theorem rhoTick_i15 : (rhoTick m a c fund d).i 15 = (a.placedAt + a.ttl.getD 0 : Nat) := rfl
@[py_eval] theorem rhoTick_i30 : (rhoTick m a c fund d).i 30 = c.id := rfl
@[py_eval] theorem rhoTick_i35 : (rhoTick m a c fund d).i 35 = (c.placedAt + c.ttl.getD 0 : Nat) := rfl
@[py_eval] theorem rhoTick_n52 : (rhoTick m a c fund d).n 52 = m.cur.last.getD d := rfl
@[py_eval] theorem rhoTick_n53 : (rhoTick m a c fund d).n 53 = m.cur.market.getD d := rfl
@[py_eval] theorem rhoTick_n54 : (rhoTick m a c fund d).n 54 = m.cur.mid.getD d := rfl
@[py_eval] theorem rhoTick_n56 : (rhoTick m a c fund d).n 56 = fund := rfl
@[py_eval] theorem rhoTick_b50 : (rhoTick m a c fund d).b 50 = m.running := rfl
end

variable [LinearOrder K] [NumOpsC K]

section tree
open ITerm NTerm BTerm Tree

/-- is the order whose bucket of the expiry index has the key `atom key` expired at time 1
(`Order.expired`: `placedAt + ttl < 1`) -/
def goneT (hasTtl : Bool) (key : Nat) : Tree Bool :=
  if hasTtl then node (ilt (atom key) (lit 1)) (fun _ => leaf true) (fun _ => leaf false) else leaf false

/-- the keys of the expiry index that an order with the bucket `atom key` accounts for -/
def keysO (hasTtl : Bool) (key : Nat) : List Obs := if hasTtl then [.int (atom key)] else []

/-- `list.remove(c)` on the queue `[a, c]` meets `a` first and compares by `Order.__eq__`: the source's
own tests, which two orders with different ids fail at once -/
def removeCT : Tree (List Obs) :=
  eqT (ordAt 1 true) (ordAt 3 true) (leaf [.ref 3]) (leaf [.ref 1])

/-- `dict.pop` of the key of `c` compares it with the key of `a` first, if `a` has a bucket -/
def popCT (ta : Bool) : Tree (List Obs) :=
  if ta then node (ieq (atom 35) (atom 15)) (fun _ => leaf [.int (atom 35)]) (fun _ => leaf [.int (atom 15)])
  else leaf []

/-- the buy queue and the keys of its expiry index after `_check_expired_orders` -/
def expiryT (ta tc : Bool) : Tree (List Obs × List Obs) :=
  (goneT ta 15).bind fun goneA => (goneT tc 35).bind fun goneC =>
    match goneA, goneC with
    | true, true => leaf ([], [])
    | true, false => leaf ([.ref 3], keysO tc 35)
    | false, true => removeCT.bind fun q => (popCT ta).map fun ks => (q, ks)
    | false, false => leaf ([.ref 1, .ref 3], keysO ta 15 ++ keysO tc 35)

/-- what `tickObs` shows: the three clocks at 1, queue and index keys `qk`, and the new slot (last-trade
and mid price carried over, market price `mk`, the fundamental price handed in, zeroed counters) -/
def slotO (hasLast hasMid : Bool) (mk : NTerm) (qk : List Obs × List Obs) : Obs :=
  .tuple [.int (lit 1), .int (lit 1), .int (lit 1), .tuple qk.1, .tuple qk.2,
          Obs.ofVal (optNum hasLast 52), Obs.ofVal (optNum hasMid 54), .num mk, .num (atom 56),
          .int (lit 0), .int (lit 0), .int (lit 0)]

def tickT (ta tc hasLast hasMid : Bool) : Tree Obs :=
  (marketT (BTerm.atom 50) (optAtom hasLast 52) (optAtom hasMid 54) (atom 53)).bind fun mk =>
    (expiryT ta tc).map (slotO hasLast hasMid mk)
end tree

theorem tick_agree : ∀ ta tc hasLast hasMid : Bool,
    agreesP tickObs tickEnv XFUEL "Market._update_time" [.ref 5, .num (.atom 56)] (stTick ta tc hasLast hasMid)
      (tickT ta tc hasLast hasMid) = true := by
  decide +kernel

section denote
variable (m : Market K) (a c : Order K) (fund d : K)

theorem goneT_denote (ρ : Rho K) (o : Order K) (key : Nat) (hkey : ρ.i key = (o.placedAt + o.ttl.getD 0 : Nat)) :
    (goneT o.ttl.isSome key).denote ρ = o.expired 1 := by
  rcases ht : o.ttl with _ | t
  · simp [goneT, Order.expired, ht, py_eval]
  · have h : ((o.placedAt + t : Nat) : Int) < 1 ↔ o.placedAt + t < 1 := by omega
    simp only [goneT, Order.expired, ht, Option.isSome_some, if_true, py_eval, hkey, Option.getD_some, h,
      decide_eq_true_eq, Bool.if_false_right, Bool.and_true]

theorem removeCT_denote (hac : a.id ≠ c.id) : removeCT.denote (rhoTick m a c fund d) = [.ref 1] :=
  eqT_denote_ne (by simpa [ordAt, py_eval] using hac) _ _

theorem popCT_denote (hkeys : a.placedAt + a.ttl.getD 0 ≠ c.placedAt + c.ttl.getD 0) :
    (popCT a.ttl.isSome).denote (rhoTick m a c fund d) = keysO a.ttl.isSome 15 := by
  have hk : (c.placedAt : Int) + (c.ttl.getD 0 : Nat) ≠ a.placedAt + (a.ttl.getD 0 : Nat) := by omega
  cases a.ttl.isSome <;> simp [popCT, keysO, py_eval, hk]

theorem expiryT_denote (hac : a.id ≠ c.id) (hkeys : a.placedAt + a.ttl.getD 0 ≠ c.placedAt + c.ttl.getD 0) :
    (expiryT a.ttl.isSome c.ttl.isSome).denote (rhoTick m a c fund d) =
      ((if a.expired 1 then [] else [.ref 1]) ++ (if c.expired 1 then [] else [.ref 3]),
       (if a.expired 1 then [] else keysO a.ttl.isSome 15) ++ (if c.expired 1 then [] else keysO c.ttl.isSome 35)) := by
  simp only [expiryT, Tree.denote_bind, goneT_denote (rhoTick m a c fund d) a 15 rfl,
    goneT_denote (rhoTick m a c fund d) c 35 rfl]
  cases a.expired 1 <;> cases c.expired 1 <;>
    simp [Tree.denote, Tree.denote_bind, Tree.denote_map, removeCT_denote m a c fund d hac,
      popCT_denote m a c fund d hkeys]

theorem marketT_denote_tick (mp : K) (hmk : m.cur.market = some mp) :
    CObs.num (((marketT (.atom 50) (optAtom m.cur.last.isSome 52) (optAtom m.cur.mid.isSome 54) (.atom 53)).denote
        (rhoTick m a c fund d)).eval (rhoTick m a c fund d)) =
      cOpt (marketRule m.running m.cur.last m.cur.mid m.cur.market) := by
  have h := marketT_denote (rhoTick m a c fund d) (.atom 50) (optAtom m.cur.last.isSome 52)
    (optAtom m.cur.mid.isSome 54) (.atom 53)
  simp only [optAtom_eval (rhoTick m a c fund d) m.cur.last 52 (d := d) rfl,
    optAtom_eval (rhoTick m a c fund d) m.cur.mid 54 (d := d) rfl, py_eval, hmk, Option.getD_some] at h
  rw [hmk, ← h]
  rfl

theorem slotO_eval (mk : NTerm) (qk : List Obs × List Obs) :
    (slotO m.cur.last.isSome m.cur.mid.isSome mk qk).eval (rhoTick m a c fund d) =
      .tuple [.int 1, .int 1, .int 1, .tuple (Obs.evalList (rhoTick m a c fund d) qk.1),
              .tuple (Obs.evalList (rhoTick m a c fund d) qk.2), cOpt m.cur.last, cOpt m.cur.mid,
              .num (mk.eval (rhoTick m a c fund d)), .num fund, .int 0, .int 0, .int 0] := by
  rcases hl : m.cur.last with _ | lp <;> rcases hm : m.cur.mid with _ | md <;>
    simp [slotO, optNum, Obs.ofVal, cOpt, py_eval, hl, hm]

theorem tickT_denote (mp : K) (hb : m.buys = [a, c]) (ht : m.time = 0) (hmk : m.cur.market = some mp)
    (hac : a.id ≠ c.id) (hkeys : a.placedAt + a.ttl.getD 0 ≠ c.placedAt + c.ttl.getD 0) :
    ((tickT a.ttl.isSome c.ttl.isSome m.cur.last.isSome m.cur.mid.isSome).denote (rhoTick m a c fund d)).eval
        (rhoTick m a c fund d) = modelTickObs a c (m.tick (srcOps K) (some fund)) := by
  rw [tickT, Tree.denote_bind, Tree.denote_map, expiryT_denote m a c fund d hac hkeys, slotO_eval,
    marketT_denote_tick m a c fund d mp hmk]
  simp only [modelTickObs, Market.tick, hb, ht]
  -- queue and keys: has either order a time-to-live, and is it expired
  rcases hta : a.ttl with _ | ta <;> rcases htc : c.ttl with _ | tc <;>
    cases hea : a.expired 1 <;> cases hec : c.expired 1 <;>
    simp [Book.keepAt, hta, htc, hea, hec, hac.symm, cOpt, keysO, py_eval]

end denote

-- `hs ha hpa hc hpc hf` say what `stTick` holds besides the queue; `tickObs` shows none of it
set_option linter.unusedVariables false in
/-- **a clock step with expiry** (buy queue `[a, c]`, each with or without a time-to-live, empty sell
side, any step statistics): the current source advances the three clocks, drops exactly the orders
whose `placedAt + ttl` lies before the new time from the queue and from the expiry index, carries
last-trade and mid price over, applies the market-price rule, records the fundamental price and opens
a fresh slot — exactly as `Market.tick` of the model says.  `hkeys`: the two orders lie in different buckets
of the expiry index (the state has one bucket per order); read with `getD 0` it also asks this of an order
without a time-to-live, which has no bucket. -/
theorem tick_src (m : Market K) (a c : Order K) (fund dflt pa pc mp fp : K)
    (hb : m.buys = [a, c]) (hs : m.sells = []) (ha : a.isBuy = true) (hpa : a.price = some pa)
    (hc : c.isBuy = true) (hpc : c.price = some pc) (ht : m.time = 0)
    (hmk : m.cur.market = some mp) (hf : m.cur.fund = some fp) (hac : a.id ≠ c.id)
    (hkeys : a.placedAt + a.ttl.getD 0 ≠ c.placedAt + c.ttl.getD 0) :
    resultG tickObs (rhoTick m a c fund dflt) tickEnv XFUEL "Market._update_time" [.ref 5, .num (.atom 56)]
        (stTick a.ttl.isSome c.ttl.isSome m.cur.last.isSome m.cur.mid.isSome)
      = modelTickObs a c (m.tick (srcOps K) (some fund)) := by
  rw [← tickT_denote m a c fund dflt mp hb ht hmk hac hkeys]
  exact resultG_eq_of_agreeP _ (tick_agree _ _ _ _)

end Pams.Src
