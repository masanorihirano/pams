/-
`Market._execution` as it stands in /repo (translated: `PamsGen.Code`, together with everything it
calls: `remain_executable_orders`, `OrderBook.get_best_order`, `_execute_orders`,
`OrderBook.change_order_volume`, `OrderBook._remove`, `Order.__eq__`, `_update_market_price`,
`ExecutionLog.__init__`) computes what the model `Market.execution` (PamsModel/Market.lean) says —
by symbolic execution of the source, for **all** values of every numeric field.

Shape of the state: a market in its first step (time 0, series of length 1) whose book holds one
buy order (address 1) and one sell order (address 2), either of which may be a limit or a market
order (not both market orders: that branch goes through `OrderBook.get_price_volume`, which is
outside the translated fragment).  All numbers — prices, volumes, ids, acceptance times, agents,
the statistics of the step, the running flag — are atoms: the theorems quantify over them.

This file has the heap, the observation and the valuation, which the other market operations
(`_add_order`, `_cancel_order`, `_update_time`, the two-bid round) take over.

Addresses and atoms (`mHeap`, `mOrder`, `marketObj`; the numbering of an order's atoms is that of
SrcOrder.lean).  Integer, number and boolean atoms are three separate name spaces: int 51 and num 51
are different atoms.

  address  object                          atoms
  k = 1…4  an order (`mOrder k`)           int 10k id, 10k+1 placed_at, 10k+2 agent, 10k+3 volume, 10k+4 ttl;
                                           num k price
  5        the market (`marketObj`)        bool 50 running; num 50 tick size; int 51 next id, 52 / 53 buy / sell
                                           orders of the step, 54 executed volume; num 51 turnover, 52 last
                                           price, 53 market price, 54 mid-quote
  6, 7     buy book, sell book (`bookObj`)
  100, 101 the kinds `MARKET_ORDER`, `LIMIT_ORDER` (`kindObj`)

Three hypotheses recur in every theorem of these families.  `ht : m.time = 0`: the state is a market in
its first step.  `hmk : m.cur.market = some mp`: the series `_market_prices` of the source always holds
a number (num atom 53, read as `m.cur.market.getD dflt`), while the model's is an option.  `dflt` is the
value of every atom the shape at hand does not read (the price of a market order, an absent last
price): the theorems hold for each.
-/
import PamsGen.Code
import PamsModel.Market
import PamsLemmas.SrcOrder
import PamsLemmas.Agree
import PamsLemmas.SrcTrees

namespace Pams.Src
open Pams Pams.Py

variable {K : Type} [LinearOrder K] [NumOpsC K]

/-- an accepted order of market 0 at address `k`; side, kind and ttl-shape fixed, numbers atoms -/
def mOrder (k : Nat) (isBuy limit hasTtl : Bool) : String → Option Val
  | "__class__" => some (.str "Order")
  | "order_id" => some (.int (.atom (10 * k)))
  | "placed_at" => some (.int (.atom (10 * k + 1)))
  | "agent_id" => some (.int (.atom (10 * k + 2)))
  | "volume" => some (.int (.atom (10 * k + 3)))
  | "ttl" => some (if hasTtl then .int (.atom (10 * k + 4)) else .none)
  | "market_id" => some (.int (.lit 0))
  | "is_buy" => some (.bool (.lit isBuy))
  | "is_canceled" => some (.bool (.lit false))
  | "price" => some (if limit then .num (.atom k) else .none)
  | "kind" => some (.ref (if limit then 101 else 100))
  | _ => none

def bookObj (isBuy : Bool) (q : List Val) : String → Option Val
  | "__class__" => some (.str "OrderBook")
  | "priority_queue" => some (.list q)
  | "is_buy" => some (.bool (.lit isBuy))
  | "time" => some (.int (.lit 0))
  | "expire_time_list" => some (.dict [] [])
  | _ => none

def optNum (has : Bool) (k : Nat) : Val := if has then .num (.atom k) else .none

/-- market 0 in its first step -/
def marketObj (hasLast hasMid : Bool) : String → Option Val
  | "__class__" => some (.str "Market")
  | "market_id" => some (.int (.lit 0))
  | "_is_running" => some (.bool (.atom 50))
  | "time" => some (.int (.lit 0))
  | "tick_size" => some (.num (.atom 50))
  | "buy_order_book" => some (.ref 6)
  | "sell_order_book" => some (.ref 7)
  | "_next_order_id" => some (.int (.atom 51))
  | "_n_buy_orders" => some (.list [.int (.atom 52)])
  | "_n_sell_orders" => some (.list [.int (.atom 53)])
  | "_executed_volumes" => some (.list [.int (.atom 54)])
  | "_executed_total_prices" => some (.list [.num (.atom 51)])
  | "_last_executed_prices" => some (.list [optNum hasLast 52])
  | "_mid_prices" => some (.list [optNum hasMid 54])
  | "_market_prices" => some (.list [.num (.atom 53)])
  | "logger" => some .none
  | _ => none

def mHeap (hasLast hasMid : Bool) (bq sq : List Val) (ord : Nat → Option (String → Option Val)) :
    Nat → String → Option Val :=
  fun addr =>
    match ord addr with
    | some o => o
    | none =>
      if addr = 5 then marketObj hasLast hasMid else if addr = 6 then bookObj true bq
      else if addr = 7 then bookObj false sq
      else if addr = 100 then kindObj 0 else if addr = 101 then kindObj 1 else fun _ => none

def ords11 (lb ls : Bool) : Nat → Option (String → Option Val)
  | 1 => some (mOrder 1 true lb false)
  | 2 => some (mOrder 2 false ls false)
  | _ => none

def st11 (hasLast hasMid lb ls : Bool) : St :=
  { heap := mHeap hasLast hasMid [.ref 1] [.ref 2] (ords11 lb ls), calls := [] }

def listObs (st : St) (a : Nat) (f : String) : Obs :=
  match st.heap a f with
  | some (.list l) => .tuple (l.map Obs.ofVal)
  | _ => .other

/-- what is observed of a round: the fills returned (price, volume, order ids, agents, time), the
volumes the two order objects are left with, the two queues, and the five series of the step -/
def execObs : Except Py.Err (Val × St) → Obs
  | .ok (v, st) =>
    .tuple [ (match v with
              | .list l => .tuple (l.map (fun x => match x with
                  | .ref a => .tuple [Obs.ofOpt (st.heap a "price"), Obs.ofOpt (st.heap a "volume"),
                                       Obs.ofOpt (st.heap a "buy_order_id"), Obs.ofOpt (st.heap a "sell_order_id"),
                                       Obs.ofOpt (st.heap a "buy_agent_id"), Obs.ofOpt (st.heap a "sell_agent_id"),
                                       Obs.ofOpt (st.heap a "time")]
                  | _ => .other))
              | _ => .other),
             Obs.ofOpt (st.heap 1 "volume"), Obs.ofOpt (st.heap 2 "volume"),
             listObs st 6 "priority_queue", listObs st 7 "priority_queue",
             listObs st 5 "_last_executed_prices", listObs st 5 "_executed_volumes",
             listObs st 5 "_executed_total_prices", listObs st 5 "_mid_prices", listObs st 5 "_market_prices" ]
  | .error e => .err e

-- fuel for the market operations (see `FUEL`)
def XFUEL : Nat := 200

/-- the model's arithmetic read off the uninterpreted operations: `(ask + bid) / 2.0`,
`acc + volume * price` -/
def srcOps (K : Type) [LinearOrder K] [NumOpsC K] : PriceOps K :=
  { mid := fun s b => (s + b) / PyNum.ofInt 2,
    addNotional := fun acc v p => acc + PyNum.ofInt v * p,
    zero := PyNum.ofInt 0,
    snap := fun _ p => p }

def cOpt : Option K → CObs K
  | some x => .num x
  | none => .none

def cFill (f : Fill K) : CObs K :=
  .tuple [.num f.price, .int f.vol, .int f.buyId, .int f.sellId, .int f.buyAgent, .int f.sellAgent, .int f.time]

def volOf (l : List (Order K)) : Int :=
  match l with
  | o :: _ => o.vol
  | [] => 0

/-- the observation `execObs` of the model's result (every `Err` of the model is an
`AssertionError` of the source) -/
def modelObs (a b : Order K) (r : Except Pams.Err (Market K × List (Fill K))) : CObs K :=
  match r with
  | .error _ => .err (.raise "AssertionError")
  | .ok (m, fills) =>
    .tuple [ .tuple (fills.map cFill), .int (volOf m.buys), .int (volOf m.sells),
             .tuple (m.buys.map (fun _ => CObs.ref 1)), .tuple (m.sells.map (fun _ => CObs.ref 2)),
             .tuple [cOpt m.cur.last], .tuple [.int m.cur.execVol], .tuple [.num m.cur.turnover],
             .tuple [cOpt m.cur.mid], .tuple [cOpt m.cur.market] ]
  where _unused := (a, b)

/-- the valuation reading the atoms off a model state with book `[a]` / `[b]` -/
def rhoM (m : Market K) (a b : Order K) (dflt : K) : Rho K :=
  { i := fun k =>
      if k = 10 then a.id else if k = 11 then a.placedAt else if k = 12 then a.agent
      else if k = 13 then a.vol
      else if k = 20 then b.id else if k = 21 then b.placedAt else if k = 22 then b.agent
      else if k = 23 then b.vol
      else if k = 51 then m.nextId else if k = 52 then m.cur.nBuy else if k = 53 then m.cur.nSell
      else if k = 54 then m.cur.execVol else 0
    n := fun k =>
      if k = 1 then a.price.getD dflt else if k = 2 then b.price.getD dflt
      else if k = 51 then m.cur.turnover else if k = 52 then m.cur.last.getD dflt
      else if k = 53 then m.cur.market.getD dflt else if k = 54 then m.cur.mid.getD dflt else dflt
    b := fun k => if k = 50 then m.running else false }

/-! ### the market-price rule, as `_add_order`, `_cancel_order` and `_update_time` apply it -/

/-- `marketRule` over terms: while `running` the last trade price, else the mid-quote, else, and while not
running, the price as it was -/
def marketT (running : BTerm) (last mid : Option NTerm) (prev : NTerm) : Tree NTerm :=
  .node running (fun _ => .leaf (last.getD (mid.getD prev))) (fun _ => .leaf prev)

theorem marketT_denote (ρ : Rho K) (running : BTerm) (last mid : Option NTerm) (prev : NTerm) :
    some (((marketT running last mid prev).denote ρ).eval ρ) =
      marketRule (running.eval ρ) (last.map (NTerm.eval ρ)) (mid.map (NTerm.eval ρ)) (some (prev.eval ρ)) := by
  cases h : running.eval ρ <;> cases last <;> cases mid <;> simp [marketT, marketRule, py_eval, h]

theorem midOf_nil_left {P : Type} (ops : PriceOps P) (l : List (Order P)) : midOf ops [] l = none := rfl

theorem midOf_nil_right {P : Type} (ops : PriceOps P) (l : List (Order P)) : midOf ops l [] = none := by
  unfold midOf
  cases Book.bestPrice l <;> rfl

end Pams.Src
