/-
`Simulator._trigger_event_*` (the nine dispatchers), `_check_event_class_and_instance`, `_add_event` and
`_update_times_on_markets` as they stand in /repo (translated: `PamsGen.Code`) against the hook model
`Pams.Hooks` — by symbolic execution: every path of a run agrees with a tree that denotes the model
(`Agree.lean`); for the dispatchers that tree is computed from the table of hooks.

Setting: a simulator (address 3) whose `events_dict` holds, for every kind, exactly the model's buckets of a
table of hooks (`dictOf`: key ↦ `Hooks.bucket tbl kind key`); the hook objects at 40 + i, their events at
60 + e; a plain market (id 0, address 5, clock = int atom 50) and an index market (id 1, address 6, clock
= int atom 60); an order for market 0 (address 10) and its cancel (address 13), logs (address 11, `time`
= int atom 70), a session (address 12, start = int atom 80, length = int atom 81).  The occurrence's time
is quantified.  Observed: the handler calls in order (name, event, arguments).

This file cannot be imported together with the files of the market operations (SrcAddDefs.lean, SrcTickDefs.lean
and what imports them): `Pams.Src.stAdd` and `Pams.Src.tickObs` are declared here and, for other things, there.
-/
import PamsLemmas.Agree
import PamsGen.Code
import PamsModel.Hooks
import PamsModel.Runner
import PamsLemmas.SrcOrder

namespace Pams.Src
open Pams Pams.Py Pams.Hooks
variable {K : Type} [LinearOrder K] [NumOpsC K]

/-- the table: market hooks without / with time lists (with a repeated entry), class and instance filters;
order, cancel, execution and session hooks -/
def tblS : Table :=
  [ { id := 40, event := 0, kind := .marketBefore, times := none, cls := none, inst := none },
    { id := 41, event := 1, kind := .marketBefore, times := some [3, 5, 3], cls := some .index, inst := none },
    { id := 42, event := 0, kind := .marketBefore, times := some [5], cls := none, inst := some 0 },
    { id := 43, event := 1, kind := .marketAfter, times := none, cls := some .market, inst := some 1 },
    { id := 44, event := 2, kind := .marketAfter, times := some [7], cls := some .index, inst := some 0 },
    { id := 45, event := 0, kind := .orderBefore, times := some [2], cls := none, inst := none },
    { id := 46, event := 1, kind := .orderBefore, times := none, cls := none, inst := none },
    { id := 47, event := 2, kind := .orderAfter, times := some [2, 4], cls := none, inst := none },
    { id := 48, event := 0, kind := .cancelBefore, times := some [], cls := none, inst := none },
    { id := 49, event := 1, kind := .cancelBefore, times := some [6], cls := none, inst := none },
    { id := 50, event := 2, kind := .cancelAfter, times := none, cls := none, inst := none },
    { id := 51, event := 0, kind := .executionAfter, times := some [4, 4], cls := none, inst := none },
    { id := 52, event := 1, kind := .executionAfter, times := none, cls := none, inst := none },
    { id := 53, event := 2, kind := .sessionBefore, times := some [0, 9], cls := none, inst := none },
    { id := 54, event := 0, kind := .sessionAfter, times := some [9], cls := none, inst := none },
    { id := 55, event := 1, kind := .sessionAfter, times := none, cls := none, inst := none } ]

def kindName : Kind → String
  | .orderBefore => "order_before" | .orderAfter => "order_after" | .cancelBefore => "cancel_before"
  | .cancelAfter => "cancel_after" | .executionAfter => "execution_after" | .sessionBefore => "session_before"
  | .sessionAfter => "session_after" | .marketBefore => "market_before" | .marketAfter => "market_after"

def allKinds : List Kind :=
  [.orderBefore, .orderAfter, .cancelBefore, .cancelAfter, .executionAfter, .sessionBefore, .sessionAfter,
   .marketBefore, .marketAfter]

def keyVal : Option Int → Val
  | none => .none
  | some t => .int (.lit t)

/-- `events_dict[kind]` as the model has it: every key some hook of the kind is filed under, in order of
first filing, with the model's bucket -/
def dictOf (tbl : Table) (kind : Kind) : Val :=
  let keys := ((tbl.filter (fun h => h.kind = kind)).flatMap keysOf).eraseDups
  .dict (keys.map keyVal) (keys.map (fun k => .list ((bucket tbl kind k).map (fun h => .ref h.id))))

def simS (tbl : Table) : String → Option Val
  | "__class__" => some (.str "Simulator")
  | "events_dict" => some (.dict (allKinds.map (fun k => .str (kindName k))) (allKinds.map (dictOf tbl)))
  | "id2market" => some (.dict [.int (.lit 0), .int (.lit 1)] [.ref 5, .ref 6])
  | "event_hooks" => some (.list (tbl.map (fun h => .ref h.id)))
  | "events" => some (.list [.ref 60, .ref 61, .ref 62])
  | "n_events" => some (.int (.atom 90))
  | "id2event" => some (.dict [.int (.lit 0), .int (.lit 1), .int (.lit 2)] [.ref 60, .ref 61, .ref 62])
  | "name2event" => some (.dict [.str "e0", .str "e1", .str "e2"] [.ref 60, .ref 61, .ref 62])
  | _ => none

def hookType : Kind → String × Bool
  | .orderBefore => ("order", true) | .orderAfter => ("order", false) | .cancelBefore => ("cancel", true)
  | .cancelAfter => ("cancel", false) | .executionAfter => ("execution", false) | .sessionBefore => ("session", true)
  | .sessionAfter => ("session", false) | .marketBefore => ("market", true) | .marketAfter => ("market", false)

def hookObj (h : Hook) : String → Option Val
  | "__class__" => some (.str "EventHook")
  | "event" => some (.ref (60 + h.event))
  | "hook_type" => some (.str (hookType h.kind).1)
  | "is_before" => some (.bool (.lit (hookType h.kind).2))
  | "time" => some (match h.times with | none => .none | some ts => .list (ts.map (fun t => .int (.lit t))))
  | "specific_class" => some (match h.cls with | none => .none | some .market => .str "Market" | some .index => .str "IndexMarket")
  | "specific_instance" => some (match h.inst with | none => .none | some i => .ref (5 + i))
  | _ => none

def mktS (k : Nat) : String → Option Val
  | "__class__" => some (.str (if k = 0 then "Market" else "IndexMarket"))
  | "market_id" => some (.int (.lit k))
  | "time" => some (.int (.atom (50 + 10 * k)))
  | _ => none

def heapS (tbl : Table) : Nat → String → Option Val :=
  fun addr =>
    if addr = 3 then simS tbl else if addr = 5 then mktS 0 else if addr = 6 then mktS 1
    else if addr = 10 then (fun f => match f with
      | "__class__" => some (.str "Order") | "market_id" => some (.int (.lit 0)) | _ => none)
    else if addr = 11 then (fun f => match f with
      | "__class__" => some (.str "Log") | "time" => some (.int (.atom 70)) | "cancel_time" => some (.int (.atom 70))
      | "market_id" => some (.int (.lit 0)) | _ => none)
    else if addr = 13 then (fun f => match f with
      | "__class__" => some (.str "Cancel") | "order" => some (.ref 10) | _ => none)
    else if addr = 12 then (fun f => match f with
      | "__class__" => some (.str "Session") | "session_start_time" => some (.int (.atom 80))
      | "iteration_steps" => some (.int (.atom 81)) | _ => none)
    else if 60 ≤ addr ∧ addr < 63 then (fun f => match f with
      | "__class__" => some (.str "ProbeEvent") | "event_id" => some (.int (.lit (addr - 60)))
      | "name" => some (.str (if addr = 60 then "e0" else if addr = 61 then "e1" else "e2")) | _ => none)
    else match tbl.find? (fun h => h.id = addr) with
      | some h => hookObj h
      | none => fun _ => none

def stS (tbl : Table) : St := { heap := heapS tbl, calls := [] }

/-- the same world with one more hook object `h` (not yet registered) -/
def stAdd (tbl : Table) (h : Hook) : St :=
  { heap := fun addr => if addr = h.id ∧ ¬ tbl.any (fun x => x.id = h.id) then hookObj h else heapS tbl addr, calls := [] }

/-- handlers are extern: every `hooked_*` of an event object answers `None` -/
def extS : Ext := fun st recv fn _ =>
  match recv with
  | .ref a => if 60 ≤ a ∧ a < 70 ∧ fn.startsWith "hooked_" then some (.none, st) else none
  | _ => none

def envS : Env := { prog := PamsGen.Code.prog, globals := globals, ext := extS, mro := PamsGen.Code.mroOf }

def handlerObs : Except Py.Err (Val × St) → Obs
  | .ok (_, st) => .tuple (st.calls.reverse.map (fun c => .tuple [.str c.fn, Obs.ofVal c.recv, .tuple (c.args.map Obs.ofVal)]))
  | .error e => .err e

/-- valuation: the clocks of the two markets, the time of the log, the session's start and length -/
def rhoS (t5 t6 tlog start steps : Int) : Rho K :=
  { i := fun k => if k = 50 then t5 else if k = 60 then t6 else if k = 70 then tlog else if k = 80 then start
      else if k = 81 then steps else 0
    n := fun _ => PyNum.ofInt 0
    b := fun _ => false }

/-- the model's dispatch as handler calls -/
def dispatchObs {K : Type} (handler : String) (arg : Nat) (hs : List Hook) : CObs K :=
  .tuple (hs.map (fun h => .tuple [.str handler, .ref (60 + h.event), .tuple [.ref 3, .ref arg]]))

theorem dispatch_of_not_listed (tbl : Table) (kind : Kind) (t : Int) (mkt : Option (Nat × Bool))
    (h : ∀ hk ∈ tbl, hk.kind = kind → ∀ ts, hk.times = some ts → t ∉ ts) :
    dispatch tbl kind t mkt = (bucket tbl kind none).filter (fun h => filterOK h mkt) := by
  have hb : bucket tbl kind (some t) = [] :=
    List.filter_eq_nil_iff.2 fun hk hmem => by
      cases hts : hk.times with
      | none => simp [keysOf, hts]
      | some ts => simpa [keysOf, hts, List.mem_eraseDups] using fun hkind => h hk hmem hkind ts hts
  simp [dispatch, hb]

/-- the statement: the handler calls of dispatcher `fn` for the occurrence `arg` are the model's `dispatch`
at the occurrence's time `time`, in order, each with `(simulator, occurrence)` -/
def DispatchSpec (K : Type) [LinearOrder K] [NumOpsC K] (fn handler : String) (arg : Nat) (kind : Kind)
    (time : Int → Int → Int → Int → Int → Int) (mkt : Option (Nat × Bool)) : Prop :=
  ∀ (t5 t6 tlog start steps : Int),
    resultG handlerObs (rhoS (K := K) t5 t6 tlog start steps) envS FUEL ("Simulator." ++ fn) [.ref 3, .ref arg] (stS tblS)
      = dispatchObs handler arg (dispatch tblS kind (time t5 t6 tlog start steps) mkt)

/-- a dispatcher, the handler it calls, the occurrence it is given here (its address), the kind of hook it
serves, the term of the occurrence's time (the clock of market 0 or 1, the log's time, the session's start
or last step) and, for step occurrences, the market -/
structure Dispatcher where
  fn : String
  handler : String
  arg : Nat
  kind : Kind
  clock : ITerm
  mkt : Option (Nat × Bool)

namespace Dispatcher
variable (d : Dispatcher)

def callsO (hs : List Hook) : Obs :=
  .tuple (hs.map (fun h => .tuple [.str d.handler, .ref (60 + h.event), .tuple [.ref 3, .ref d.arg]]))

theorem callsO_eval (ρ : Rho K) (hs : List Hook) : (d.callsO hs).eval ρ = dispatchObs d.handler d.arg hs := by
  simp [callsO, dispatchObs, Obs.eval, Obs.evalList_eq_map]

/-- the model's `dispatch` as a decision tree over the term `clock`: one test `clock == k` per time `k` of
`ks` (the source walks the keys of `events_dict[kind]` in the same way), below it the model's dispatch at
`k`; the always-hooks when no test succeeds -/
def dispatchT (tbl : Table) : List Int → Tree Obs
  | [] => .leaf (d.callsO ((bucket tbl d.kind none).filter (fun h => filterOK h d.mkt)))
  | k :: ks => .node (.ieq d.clock (.lit k)) (fun _ => .leaf (d.callsO (dispatch tbl d.kind k d.mkt)))
      (fun _ => dispatchT tbl ks)

theorem dispatchT_denote (ρ : Rho K) (tbl : Table) (ks : List Int) :
    ((d.dispatchT tbl ks).denote ρ).eval ρ
      = dispatchObs d.handler d.arg (if d.clock.eval ρ ∈ ks then dispatch tbl d.kind (d.clock.eval ρ) d.mkt
          else (bucket tbl d.kind none).filter (fun h => filterOK h d.mkt)) := by
  induction ks with
  | nil => simp only [dispatchT, py_eval, List.not_mem_nil, if_false, callsO_eval]
  | cons k ks ih =>
    by_cases hc : d.clock.eval ρ = k
    · simp only [dispatchT, py_eval, hc, decide_true, List.mem_cons, true_or, if_true, callsO_eval]
    · simp only [dispatchT, py_eval, hc, decide_false, Bool.false_eq_true, List.mem_cons, false_or, if_false, ih]

end Dispatcher

def listedTimes (tbl : Table) (kind : Kind) : List Int :=
  (tbl.filter (fun h => h.kind = kind)).flatMap (fun h => h.times.getD [])

theorem Dispatcher.dispatchT_denote_listed (d : Dispatcher) (ρ : Rho K) (tbl : Table) :
    ((d.dispatchT tbl (listedTimes tbl d.kind)).denote ρ).eval ρ
      = dispatchObs d.handler d.arg (dispatch tbl d.kind (d.clock.eval ρ) d.mkt) := by
  rw [d.dispatchT_denote]
  by_cases hl : d.clock.eval ρ ∈ listedTimes tbl d.kind
  · rw [if_pos hl]
  · rw [if_neg hl, dispatch_of_not_listed tbl d.kind _ d.mkt fun hk hm hkind ts hts ht =>
      hl (List.mem_flatMap.2 ⟨hk, List.mem_filter.2 ⟨hm, decide_eq_true hkind⟩, by rwa [hts]⟩)]

def dispatchers : List Dispatcher :=
  [⟨"_trigger_event_before_step_for_market", "hooked_before_step_for_market", 5, .marketBefore, .atom 50, some (0, false)⟩,
   ⟨"_trigger_event_before_step_for_market", "hooked_before_step_for_market", 6, .marketBefore, .atom 60, some (1, true)⟩,
   ⟨"_trigger_event_after_step_for_market", "hooked_after_step_for_market", 5, .marketAfter, .atom 50, some (0, false)⟩,
   ⟨"_trigger_event_after_step_for_market", "hooked_after_step_for_market", 6, .marketAfter, .atom 60, some (1, true)⟩,
   ⟨"_trigger_event_before_order", "hooked_before_order", 10, .orderBefore, .atom 50, none⟩,
   ⟨"_trigger_event_after_order", "hooked_after_order", 11, .orderAfter, .atom 70, none⟩,
   ⟨"_trigger_event_before_cancel", "hooked_before_cancel", 13, .cancelBefore, .atom 50, none⟩,
   ⟨"_trigger_event_after_cancel", "hooked_after_cancel", 11, .cancelAfter, .atom 70, none⟩,
   ⟨"_trigger_event_after_execution", "hooked_after_execution", 11, .executionAfter, .atom 70, none⟩,
   ⟨"_trigger_event_before_session", "hooked_before_session", 12, .sessionBefore, .atom 80, none⟩,
   ⟨"_trigger_event_after_session", "hooked_after_session", 12, .sessionAfter, .sub (.add (.atom 80) (.atom 81)) (.lit 1), none⟩]

theorem dispatch_agree : ∀ d ∈ dispatchers,
    agreesP handlerObs envS FUEL ("Simulator." ++ d.fn) [.ref 3, .ref d.arg] (stS tblS)
      (d.dispatchT tblS (listedTimes tblS d.kind)) = true := by
  decide +kernel

/-- each dispatcher invokes the model's `dispatch` at the occurrence's time, under every valuation -/
theorem dispatch_src (d : Dispatcher) (hd : d ∈ dispatchers) (ρ : Rho K) :
    resultG handlerObs ρ envS FUEL ("Simulator." ++ d.fn) [.ref 3, .ref d.arg] (stS tblS)
      = dispatchObs d.handler d.arg (dispatch tblS d.kind (d.clock.eval ρ) d.mkt) :=
  (resultG_eq_of_agreeP ρ (dispatch_agree d hd)).trans (d.dispatchT_denote_listed ρ tblS)

theorem dispatch_src_market_before_plain :
    DispatchSpec K "_trigger_event_before_step_for_market" "hooked_before_step_for_market" 5 .marketBefore
      (fun t5 _ _ _ _ => t5) (some (0, false)) :=
  fun _ _ _ _ _ => dispatch_src ⟨_, _, 5, .marketBefore, .atom 50, _⟩ (by simp [dispatchers]) _

theorem dispatch_src_market_before_index :
    DispatchSpec K "_trigger_event_before_step_for_market" "hooked_before_step_for_market" 6 .marketBefore
      (fun _ t6 _ _ _ => t6) (some (1, true)) :=
  fun _ _ _ _ _ => dispatch_src ⟨_, _, 6, .marketBefore, .atom 60, _⟩ (by simp [dispatchers]) _

theorem dispatch_src_market_after_plain :
    DispatchSpec K "_trigger_event_after_step_for_market" "hooked_after_step_for_market" 5 .marketAfter
      (fun t5 _ _ _ _ => t5) (some (0, false)) :=
  fun _ _ _ _ _ => dispatch_src ⟨_, _, 5, .marketAfter, .atom 50, _⟩ (by simp [dispatchers]) _

theorem dispatch_src_market_after_index :
    DispatchSpec K "_trigger_event_after_step_for_market" "hooked_after_step_for_market" 6 .marketAfter
      (fun _ t6 _ _ _ => t6) (some (1, true)) :=
  fun _ _ _ _ _ => dispatch_src ⟨_, _, 6, .marketAfter, .atom 60, _⟩ (by simp [dispatchers]) _

theorem dispatch_src_order_before :
    DispatchSpec K "_trigger_event_before_order" "hooked_before_order" 10 .orderBefore (fun t5 _ _ _ _ => t5) none :=
  fun _ _ _ _ _ => dispatch_src ⟨_, _, 10, .orderBefore, .atom 50, _⟩ (by simp [dispatchers]) _

theorem dispatch_src_order_after :
    DispatchSpec K "_trigger_event_after_order" "hooked_after_order" 11 .orderAfter (fun _ _ tlog _ _ => tlog) none :=
  fun _ _ _ _ _ => dispatch_src ⟨_, _, 11, .orderAfter, .atom 70, _⟩ (by simp [dispatchers]) _

theorem dispatch_src_cancel_before :
    DispatchSpec K "_trigger_event_before_cancel" "hooked_before_cancel" 13 .cancelBefore (fun t5 _ _ _ _ => t5) none :=
  fun _ _ _ _ _ => dispatch_src ⟨_, _, 13, .cancelBefore, .atom 50, _⟩ (by simp [dispatchers]) _

theorem dispatch_src_cancel_after :
    DispatchSpec K "_trigger_event_after_cancel" "hooked_after_cancel" 11 .cancelAfter (fun _ _ tlog _ _ => tlog) none :=
  fun _ _ _ _ _ => dispatch_src ⟨_, _, 11, .cancelAfter, .atom 70, _⟩ (by simp [dispatchers]) _

theorem dispatch_src_execution_after :
    DispatchSpec K "_trigger_event_after_execution" "hooked_after_execution" 11 .executionAfter (fun _ _ tlog _ _ => tlog) none :=
  fun _ _ _ _ _ => dispatch_src ⟨_, _, 11, .executionAfter, .atom 70, _⟩ (by simp [dispatchers]) _

theorem dispatch_src_session_before :
    DispatchSpec K "_trigger_event_before_session" "hooked_before_session" 12 .sessionBefore (fun _ _ _ start _ => start) none :=
  fun _ _ _ _ _ => dispatch_src ⟨_, _, 12, .sessionBefore, .atom 80, _⟩ (by simp [dispatchers]) _

theorem dispatch_src_session_after :
    DispatchSpec K "_trigger_event_after_session" "hooked_after_session" 12 .sessionAfter
      (fun _ _ _ start steps => start + steps - 1) none :=
  fun _ _ _ _ _ => dispatch_src ⟨_, _, 12, .sessionAfter, .sub (.add (.atom 80) (.atom 81)) (.lit 1), _⟩ (by simp [dispatchers]) _

mutual
/-- a value as an observation, containers included -/
def valObs : Val → Obs
  | .list l => .tuple (valObsL l)
  | .dict ks vs => .tuple [.tuple (valObsL ks), .tuple (valObsL vs)]
  | .none => .none
  | .bool t => .bool t
  | .int t => .int t
  | .num t => .num t
  | .str s => .str s
  | .ref a => .ref a
  | .clo _ => .other
def valObsL : List Val → List Obs
  | [] => []
  | v :: vs => valObs v :: valObsL vs
end

/-- after `_add_event`: the buckets of every kind, the registration list, the hook counter -/
def addEventObs : Except Py.Err (Val × St) → Obs
  | .ok (_, st) => .tuple [match st.heap 3 "events_dict" with | some v => valObs v | none => .absent,
                           match st.heap 3 "event_hooks" with | some v => valObs v | none => .absent,
                           Obs.ofOpt (st.heap 3 "n_events")]
  | .error e => .err e

/-- what the model says the registration leaves behind: the buckets of the extended table -/
def registered (tbl : Table) (h : Hook) : Obs :=
  match register tbl h with
  | none => .err (.raise "ValueError")
  | some tbl' =>
    .tuple [valObs (.dict (allKinds.map (fun k => .str (kindName k))) (allKinds.map (dictOf tbl'))),
            valObs (.list (tbl'.map (fun x => .ref x.id))), .int (.add (.atom 90) (.lit 1))]

/-- a market hook with a repeated time, one new key (2) and one existing (5) -/
def hN1 : Hook := { id := 58, event := 2, kind := .marketBefore, times := some [5, 2, 5], cls := none, inst := none }
/-- an always-hook for a kind that has one already -/
def hN2 : Hook := { id := 58, event := 0, kind := .executionAfter, times := none, cls := none, inst := none }
/-- an empty time list: filed nowhere, but registered -/
def hN3 : Hook := { id := 58, event := 1, kind := .sessionBefore, times := some [], cls := none, inst := none }
/-- a hook object that is registered already -/
def hDup : Hook := { id := 41, event := 1, kind := .marketBefore, times := some [3, 5, 3], cls := some .index, inst := none }

/-- **`_add_event` is the model's `register`**: afterwards every kind's buckets are the buckets of the
extended table (a hook is filed once under each *distinct* time of its list, under `None` without a
list, nowhere with an empty list), the hook is appended to the registration list and counted; a hook
object registered before is refused -/
def AddEventSpec (K : Type) [LinearOrder K] [NumOpsC K] (h : Hook) : Prop :=
  ∀ (ρ : Rho K), resultG addEventObs ρ envS FUEL "Simulator._add_event" [.ref 3, .ref h.id] (stAdd tblS h)
      = (registered tblS h).eval ρ

theorem add_event_agree : ∀ h ∈ [hN1, hN2, hN3, hDup],
    agreesP addEventObs envS FUEL "Simulator._add_event" [.ref 3, .ref h.id] (stAdd tblS h)
      (Tree.leaf (registered tblS h)) = true := by
  decide +kernel

theorem add_event_src (h : Hook) (hh : h ∈ [hN1, hN2, hN3, hDup]) : AddEventSpec K h :=
  fun ρ => resultG_eq_of_agreeP ρ (add_event_agree h hh)

theorem add_event_src_1 : AddEventSpec K hN1 := add_event_src hN1 (by simp)
theorem add_event_src_2 : AddEventSpec K hN2 := add_event_src hN2 (by simp)
theorem add_event_src_3 : AddEventSpec K hN3 := add_event_src hN3 (by simp)
theorem add_event_src_dup : AddEventSpec K hDup := add_event_src hDup (by simp)

/-- the per-market clock advance `_update_time_on_market` is extern here (SrcTick has the source theorem of the
`Market._update_time` it calls) -/
def envT : Env :=
  { prog := PamsGen.Code.prog.filter (fun e => !(e.1 == "Simulator._update_time_on_market")),
    globals := fun x => if x = "IndexMarket" then some (.str "IndexMarket") else globals x, mro := PamsGen.Code.mroOf,
    ext := fun st recv fn _ => match recv, fn with
      | .ref 3, "_update_time_on_market" => some (.none, st)
      | _, _ => none }

def tickObs {K : Type} (evs : List Runner.Ev) : CObs K :=
  .tuple (evs.filterMap (fun e => match e with
    | .tick m => some (.tuple [.str "_update_time_on_market", .ref 3, .tuple [.ref (5 + m)]])
    | _ => none))

/-- the clock of the plain market (address 5) is advanced, then that of the index market (address 6) -/
def plainThenIndexO : Obs :=
  .tuple [.tuple [.str "_update_time_on_market", .ref 3, .tuple [.ref 5]],
          .tuple [.str "_update_time_on_market", .ref 3, .tuple [.ref 6]]]

theorem ticks_agree : ∀ ms ∈ [[6, 5], [5, 6]], agreesP handlerObs envT FUEL "Simulator._update_times_on_markets"
    [.ref 3, .list (ms.map Val.ref)] (stS tblS) (Tree.leaf plainThenIndexO) = true := by
  decide +kernel

/-- **`_update_times_on_markets` is the model's `ticks`**: whatever the order in which the markets are
listed, the plain market's clock is advanced before the index market's -/
theorem ticks_src_index_first (ρ : Rho K) :
    resultG handlerObs ρ envT FUEL "Simulator._update_times_on_markets" [.ref 3, .list [.ref 6, .ref 5]] (stS tblS)
      = tickObs (Runner.ticks [(1, true), (0, false)]) :=
  resultG_eq_of_agreeP ρ (ticks_agree [6, 5] (by simp))

/-- the same when the plain market is listed first -/
theorem ticks_src_plain_first (ρ : Rho K) :
    resultG handlerObs ρ envT FUEL "Simulator._update_times_on_markets" [.ref 3, .list [.ref 5, .ref 6]] (stS tblS)
      = tickObs (Runner.ticks [(0, false), (1, true)]) :=
  resultG_eq_of_agreeP ρ (ticks_agree [5, 6] (by simp))

end Pams.Src
