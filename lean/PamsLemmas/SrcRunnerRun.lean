/-
`SequentialRunner._run` as it stands in /repo — with `_iterate_market_updates`, `_update_markets`,
`_collect_orders_from_normal_agents` and `_handle_orders` below it, all translated from the current
source — is the scheduler model's `Runner.run`, on shapes (see SrcRunnerDefs.lean), by agreement with
a model tree computed from the shape as in SrcRunner.lean.
-/
import PamsLemmas.SrcRunner

/-! ### a step and a session look at the caps through `CapLike` only -/

namespace Pams.Runner

/-- a tape with at most `Ln` normal and `Lh` high-frequency agents -/
def StepTape.Within (Ln Lh : Nat) (tape : StepTape) : Prop :=
  tape.perm.length ≤ Ln ∧ ∀ rt ∈ tape.rounds, rt.perm.length ≤ Lh

section
variable (ms : Markets) (cfg : SessionCfg) {n' h' : Int} {Ln Lh : Nat}
  (hn : CapLike Ln cfg.maxNormal n') (hh : CapLike Lh cfg.maxHft h')
include hn hh

theorem runStep_congr (t : Nat) (flag : Bool) (tape : StepTape) (ht : tape.Within Ln Lh) :
    runStep ms cfg t flag tape = runStep ms { cfg with maxNormal := n', maxHft := h' } t flag tape := by
  have hc := collect_congr false tape.answer tape.perm 0 (hn.mono (by simpa using ht.1))
  have hh' := fun bs fl => handle_congr t hh bs tape.rounds fl ht.2
  simp only [runStep, hc, hh']

theorem runSteps_congr : ∀ (n t : Nat) (flag : Bool) (tapes : List StepTape), (∀ tape ∈ tapes, tape.Within Ln Lh) →
    runSteps ms cfg t flag tapes n = runSteps ms { cfg with maxNormal := n', maxHft := h' } t flag tapes n
  | 0, _, _, _, _ => by rw [runSteps, runSteps]
  | n + 1, t, flag, tapes, h => by
    have hd : (tapes.headD ⟨fun _ => false, [], fun _ => [], [], []⟩).Within Ln Lh := by
      cases tapes with
      | nil => exact ⟨Nat.zero_le _, nofun⟩
      | cons tape _ => exact h tape (by simp)
    have ih := fun fl => runSteps_congr n (t + 1) fl tapes.tail fun tape ht => h tape (List.mem_of_mem_tail ht)
    rw [runSteps, runSteps, runStep_congr ms cfg hn hh t flag _ hd]
    simp only [ih]

theorem runSession_congr (k start : Nat) (tapes : List StepTape) (h : ∀ tape ∈ tapes, tape.Within Ln Lh) :
    runSession ms k cfg start tapes = runSession ms k { cfg with maxNormal := n', maxHft := h' } start tapes := by
  simp only [runSession, runSteps_congr ms cfg hn hh _ _ _ tapes h]
end

end Pams.Runner

namespace Pams.Src
open Pams Pams.Py Pams.Runner
variable {K : Type}

section
variable (s0 s1 : SessP K) (d : Nat → K)
/-- num atom 100 is the second session's rate, every other num atom from 2 on a draw -/
theorem rhoRun2_draw (k : Nat) (h : k ≠ 98) : (rhoRun2 s0 s1 d).n (2 + k) = d k := by
  have h1 : ¬ 2 + k = 1 := by omega
  have h2 : ¬ 2 + k = 100 := by omega
  simp [rhoRun2, h1, h2]
end

variable [LinearOrder K] [NumOpsC K]

/-! ### shapes of `_run` -/

/-- two sessions of one and two steps over two markets, no agents: the frame of a run — logs, hook
dispatches, clock advances; a before-step hook of market 1 switches execution on in the second session -/
def rA : RShape :=
  { reqs := [], batches := [], shuffled := [], hft := [], perm := [], normal := [], nperm := [],
    answer := fun _ => [], fills := fun _ => [], steps := [1, 2], resume := fun tick m => tick = 2 ∧ m = 1 }

/-- one session of one step: the normal agent 1 submits an order whose fill halts trading, the
high-frequency agent 3 submits an order afterwards; market 1's before-step hook had switched execution on -/
def rB : RShape :=
  { reqs := [⟨10, false, 1, 0⟩, ⟨12, false, 3, 1⟩], batches := [[10]], shuffled := [[10]],
    hft := [3], perm := [3], normal := [1], nperm := [1],
    answer := fun a => if a = 1 then [10] else if a = 3 then [12] else [],
    fills := fun r => if r = 10 then [⟨30, 1, 2, true⟩] else [],
    steps := [1], resume := fun tick m => tick = 1 ∧ m = 1 }

/-- a session of no steps followed by a session of one step -/
def rC : RShape :=
  { reqs := [], batches := [], shuffled := [], hft := [], perm := [], normal := [], nperm := [],
    answer := fun _ => [], fills := fun _ => [], steps := [0, 1] }

/-- one session of three steps, no agents -/
def rD : RShape :=
  { reqs := [], batches := [], shuffled := [], hft := [], perm := [], normal := [], nperm := [],
    answer := fun _ => [], fills := fun _ => [], steps := [3], resume := fun tick m => tick = 3 ∧ m = 0 }

/-- the normal agent 2 submits an order in the name of agent 1: the run ends there -/
def rE : RShape :=
  { reqs := [⟨10, false, 1, 0⟩], batches := [[10]], shuffled := [[10]],
    hft := [], perm := [], normal := [2], nperm := [2],
    answer := fun a => if a = 2 then [10] else [],
    fills := fun _ => [], steps := [1] }

/-- the statement for a shape: for every value of the sessions' switches, rates and caps and of every
draw, what `_run` does to its world is what the model's `run` says (`last` = the execution switch the
markets' running flags were last set from) -/
def RunSpec (K : Type) [LinearOrder K] [NumOpsC K] (sh : RShape) (last : SessP K → SessP K → Bool) : Prop :=
  ∀ (s0 s1 : SessP K) (draw : Nat → K),
    resultG runObs (rhoRun2 s0 s1 draw) (rEnv sh) 200 "SequentialRunner._run" [.ref 1] (rSt sh)
      = runOut (sh.runModel s0 s1 draw) (last s0 s1)

macro "run_finish " sh:ident : tactic =>
  `(tactic| (all_goals intro h
             all_goals simp [BTerm.eval, ITerm.eval, NTerm.eval, rhoRun2, Obs.eval, Obs.evalList] at h ⊢
             all_goals simp_all [lt_false_of_le, le_false_of_lt, runOut, RShape.runModel, RShape.stepTapes, RShape.rounds,
               RShape.requests, RShape.request, SessP.cfg, $sh:ident, twoMarkets, runSessions, runSession, runSteps, runStep,
               stepBefore, stepAfter, ticks, applyShuffle, collect, handle, processBatch, processRequest, Out.andThen,
               hftRound, fillEvents, flagAfterFills, evCalls, traceCalls, cCall, mkts, mktAddr, agentAddr, logAddr, sessAddr]))

/-- the step tapes, given the round tapes of each step -/
def RShape.tapesOf (sh : RShape) (rounds : List RoundTape) : Nat → Nat → List StepTape
  | _, 0 => []
  | tick, n + 1 =>
    { resume := sh.resume tick, perm := sh.nperm, answer := fun a => sh.requests (sh.answer a),
      shuffle := List.range sh.shuffled.length, rounds := rounds } :: sh.tapesOf rounds (tick + 1) n

theorem RShape.stepTapes_eq (sh : RShape) (rate : K) (draw : Nat → K) : ∀ tick n,
    sh.stepTapes rate draw tick n = sh.tapesOf (sh.rounds rate draw 0 sh.shuffled.length) tick n
  | _, 0 => rfl
  | tick, n + 1 => by rw [RShape.stepTapes, RShape.tapesOf, sh.stepTapes_eq rate draw (tick + 1) n]

/-- `RShape.runModel`, given the sessions and the round tapes as the model takes them -/
def RShape.runOf (sh : RShape) (c0 c1 : Nat → SessionCfg) (r0 r1 : List RoundTape) : List Ev × Bool :=
  match sh.steps with
  | [n0] => runSessions twoMarkets 0 0 [c0 n0] [sh.tapesOf r0 1 n0]
  | [n0, n1] => runSessions twoMarkets 0 0 [c0 n0, c1 n1] [sh.tapesOf r0 1 n0, sh.tapesOf r1 (1 + n0) n1]
  | _ => ([], true)

theorem RShape.runModel_eq (sh : RShape) (s0 s1 : SessP K) (draw : Nat → K) :
    sh.runModel s0 s1 draw = sh.runOf s0.cfg s1.cfg (sh.rounds s0.rate draw 0 sh.shuffled.length)
      (sh.rounds s1.rate draw 0 sh.shuffled.length) := by
  unfold RShape.runModel RShape.runOf
  generalize sh.steps = l
  rcases l with _ | ⟨n0, _ | ⟨n1, _ | _⟩⟩ <;> simp only [RShape.stepTapes_eq]

section tree
open Tree BTerm ITerm NTerm

def runOutO (r : List Ev × Bool) (ft : BTerm) : Obs :=
  if r.2 then
    .tuple [.tuple (quoteList (traceCalls 4 ([Ev.simBegin, Ev.flush] ++ ticks twoMarkets ++ r.1 ++ [Ev.simEnd, Ev.flush]))),
            .bool ft, .bool ft]
  else .err (.raise "ValueError")

theorem runOutO_eval (ρ : Rho K) (r : List Ev × Bool) (ft : BTerm) :
    (runOutO r ft).eval ρ = runOut r (ft.eval ρ) := by
  unfold runOutO runOut
  split <;> simp [Obs.eval, Obs.evalList, quoteList_traceCalls]

/-- what a run asks about the session whose atoms are `base + 1`, `base + 2` and `rate` -/
def sessT (sh : RShape) (base rate : Nat) (f : (Nat → SessionCfg) → List RoundTape → Tree Obs) : Tree Obs :=
  ask (atom (base + 1)) fun placement => ask (atom (base + 2)) fun flag =>
    askCap (atom (base + 2)) 0 sh.nperm.length fun capN => askCap (atom (base + 1)) 0 sh.perm.length fun capH =>
      askAll (skipConds rate sh.shuffled.length) fun skip =>
        f (SessP.cfg (K := Unit) ⟨placement, flag, (), capH, capN⟩) (sh.roundsOf skip)

/-- `_run` on the shape: the questions about the first session and, unless it is the only one, about
the second; at the leaf the model's run.  The markets' running flags are the execution flag of the
last session as it began. -/
def runT (sh : RShape) : Tree Obs :=
  sessT sh 0 1 fun c0 r0 =>
    match sh.steps with
    | [_] => leaf (runOutO (sh.runOf c0 c0 r0 r0) (atom 2))
    | _ => sessT sh 10 100 fun c1 r1 => leaf (runOutO (sh.runOf c0 c1 r0 r1) (atom 12))
end tree

theorem sessT_denote (ρ : Rho K) (sh : RShape) (base rate : Nat)
    (f : (Nat → SessionCfg) → List RoundTape → Tree Obs) :
    (sessT sh base rate f).denote ρ =
      (f (SessP.cfg (K := Unit) ⟨ρ.b (base + 1), ρ.b (base + 2), (),
            (min (max (ρ.i (base + 1)) (0 : Nat)) ((0 + sh.perm.length : Nat) : Int)).toNat,
            (min (max (ρ.i (base + 2)) (0 : Nat)) ((0 + sh.nperm.length : Nat) : Int)).toNat⟩)
         (sh.roundsOf ((List.range' 0 sh.shuffled.length).map fun k => decide (ρ.n rate < ρ.n (2 + k))))).denote ρ := by
  simp only [sessT, skipConds_eval, py_eval]

theorem RShape.tapesOf_within (sh : RShape) (rounds : List RoundTape)
    (hr : ∀ rt ∈ rounds, rt.perm.length ≤ sh.perm.length) :
    ∀ tick n, ∀ tape ∈ sh.tapesOf rounds tick n, tape.Within sh.nperm.length sh.perm.length
  | _, 0 => nofun
  | tick, n + 1 => by
    rw [RShape.tapesOf]
    exact List.forall_mem_cons.2 ⟨⟨Nat.le_refl _, hr⟩, sh.tapesOf_within rounds hr (tick + 1) n⟩

theorem RShape.runOf_congr (sh : RShape) (c0 c1 : Nat → SessionCfg) {n0' h0' n1' h1' : Int}
    (hn0 : ∀ n, CapLike sh.nperm.length (c0 n).maxNormal n0') (hh0 : ∀ n, CapLike sh.perm.length (c0 n).maxHft h0')
    (hn1 : ∀ n, CapLike sh.nperm.length (c1 n).maxNormal n1') (hh1 : ∀ n, CapLike sh.perm.length (c1 n).maxHft h1')
    (r0 r1 : List RoundTape) (hr0 : ∀ rt ∈ r0, rt.perm.length ≤ sh.perm.length)
    (hr1 : ∀ rt ∈ r1, rt.perm.length ≤ sh.perm.length) :
    sh.runOf c0 c1 r0 r1 = sh.runOf (fun n => { c0 n with maxNormal := n0', maxHft := h0' })
      (fun n => { c1 n with maxNormal := n1', maxHft := h1' }) r0 r1 := by
  have e0 := fun n k start tick => runSession_congr twoMarkets (c0 n) (hn0 n) (hh0 n) k start _ (sh.tapesOf_within r0 hr0 tick n)
  have e1 := fun n k start tick => runSession_congr twoMarkets (c1 n) (hn1 n) (hh1 n) k start _ (sh.tapesOf_within r1 hr1 tick n)
  unfold RShape.runOf
  generalize sh.steps = l
  rcases l with _ | ⟨n0, _ | ⟨n1, _ | _⟩⟩ <;> simp only [runSessions, List.headD_cons, List.tail_cons, e0, e1] <;> rfl

theorem run_agree : ∀ sh ∈ [rA, rB, rC, rD, rE],
    agreesP runObs (rEnv sh) 200 "SequentialRunner._run" [.ref 1] (rSt sh) (runT sh) = true := by
  decide +kernel

/-- `rhoRun2` keeps draw `k` in num atom `2 + k` and the second session's rate in num atom 100: a shape of at
most 98 batches asks for no draw that falls on the rate -/
theorem run_draws : ∀ sh ∈ [rA, rB, rC, rD, rE], sh.shuffled.length ≤ 98 := by decide

theorem RShape.runOf_single (sh : RShape) {n : Nat} (h : sh.steps = [n]) (c0 c1 c1' : Nat → SessionCfg)
    (r0 r1 r1' : List RoundTape) : sh.runOf c0 c1 r0 r1 = sh.runOf c0 c1' r0 r1' := by
  unfold RShape.runOf
  rw [h]

theorem runT_denote (sh : RShape) (hs : sh.shuffled.length ≤ 98) (s0 s1 : SessP K) (draw : Nat → K) :
    ((runT sh).denote (rhoRun2 s0 s1 draw)).eval (rhoRun2 s0 s1 draw)
      = runOut (sh.runModel s0 s1 draw) (match sh.steps with | [_] => s0.flag | _ => s1.flag) := by
  have hd (rate : Nat) : ((List.range' 0 sh.shuffled.length).map fun k =>
        decide ((rhoRun2 s0 s1 draw).n rate < (rhoRun2 s0 s1 draw).n (2 + k)))
      = (List.range' 0 sh.shuffled.length).map fun k => decide ((rhoRun2 s0 s1 draw).n rate < draw k) :=
    List.map_congr_left fun k hk => by rw [rhoRun2_draw s0 s1 draw k (by have := (List.mem_range'_1.1 hk).2; omega)]
  have hN (s : SessP K) (_ : Nat) := capLike_clamp s.capN sh.nperm.length
  have hH (s : SessP K) (_ : Nat) := capLike_clamp s.capH sh.perm.length
  rw [runT, sessT_denote, sh.runModel_eq, sh.rounds_eq, sh.rounds_eq, hd]
  split
  next n h =>
    rw [Tree.denote, runOutO_eval, sh.runOf_single h s0.cfg s1.cfg s0.cfg _ _ (sh.roundsOf _),
      sh.runOf_congr _ _ (hN s0) (hH s0) (hN s0) (hH s0) _ _ (sh.roundsOf_perm _) (sh.roundsOf_perm _)]
    rfl
  next =>
    rw [sessT_denote, Tree.denote, runOutO_eval, hd,
      sh.runOf_congr _ _ (hN s0) (hH s0) (hN s1) (hH s1) _ _ (sh.roundsOf_perm _) (sh.roundsOf_perm _)]
    rfl

/-- on these shapes (fewer than 99 batches: atom 100 is the second session's rate, not a draw), `_run`
does to its world what the model's `run` says -/
theorem run_src {sh : RShape} (h : sh ∈ [rA, rB, rC, rD, rE]) :
    RunSpec K sh (fun s0 s1 => match sh.steps with | [_] => s0.flag | _ => s1.flag) := by
  intro s0 s1 draw
  rw [← runT_denote sh (run_draws sh h) s0 s1 draw]
  exact resultG_eq_of_agreeP _ (run_agree sh h)

theorem run_src_A : RunSpec K rA (fun _ s1 => s1.flag) := run_src (by simp)

theorem run_src_B : RunSpec K rB (fun s0 _ => s0.flag) := run_src (by simp)

theorem run_src_C : RunSpec K rC (fun _ s1 => s1.flag) := run_src (by simp)

theorem run_src_D : RunSpec K rD (fun s0 _ => s0.flag) := run_src (by simp)

theorem run_src_E : RunSpec K rE (fun s0 _ => s0.flag) := run_src (by simp)

end Pams.Src
