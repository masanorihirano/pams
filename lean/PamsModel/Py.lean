/-
A big-step semantics of the fragment of Python that pams' decision code is written in
("mini-Python").  It is the *meaning* given to the abstract syntax trees which the translator
(harness/py2lean.py) dumps from /repo's current sources into `PamsGen/Code.lean`: the translator
is a serializer of `ast` nodes and carries no semantics of its own.

The semantics is *symbolic*: numbers are terms (`ITerm` for `int`, `NTerm` for `float`, `BTerm`
for `bool`) over atoms, a run produces a decision tree (`Tree`) whose inner nodes are the boolean
terms the program branched on, and the meaning of a run under a valuation `ρ` of the atoms is the
leaf reached by `Tree.denote ρ`.  With literal inputs every branch condition folds to a literal
and the tree is a single leaf — the ordinary concrete execution (this is what the driver runs and
what is compared with CPython); with atoms as inputs the same definition is a symbolic execution
whose paths can be enumerated by the kernel (closed terms), which is what makes "for all inputs"
theorems about translated functions cheap: `Tree.pathsD dec` lists the paths, leaving out a branch
whose condition the pruner `dec` decides the other way from the conditions above it, and
`Tree.denote_of_pathsD` (for any pruner sound under `ρ`) reduces a claim about the leaf reached to
the claim on every listed path.  `Tree.paths` is the case of a pruner that decides nothing.

Values: `None`, `bool`, `int` (unbounded), `float` (terms over an abstract type `K` with the
operations of `PyNum`: IEEE doubles in the driver, an ordered field in the theorems), `str`,
references to heap objects (identity + mutable fields), immutable sequences (list / tuple /
`dict.values()`), dictionaries (parallel key / value lists, insertion ordered), local closures.

State: a heap `address → field → value` (attribute reads / writes go through it, so aliasing is
respected for objects) and the log of *extern* calls — calls whose callee is not among the
translated functions are answered by an oracle `Ext` that may read and change the state; they are
recorded in order.  Containers are values (a `dict` stored in a field is copied on read and written
back on item assignment): aliasing between two names for one *container* is not modelled.

Every recursive call is on a smaller fuel, so the definition is structural; running out of fuel is
an error value (`Err.fuel`), never a silent default.
-/
import PamsModel.Arith

namespace Pams.Py

/-- what the abstract float type must provide (Python's float operations) -/
class PyNum (K : Type) extends Arith K where
  beq : K → K → Bool
  ofInt : Int → K
  floor : K → Int
  ceil : K → Int
  fmod : K → K → K
  exp : K → K
  log : K → K
  sqrt : K → K

/-! ### symbolic numbers -/

mutual
inductive ITerm where
  | lit (i : Int)
  | atom (k : Nat)
  | add (a b : ITerm)
  | sub (a b : ITerm)
  | mul (a b : ITerm)
  | neg (a : ITerm)
  | fdiv (a b : ITerm)
  | fmod (a b : ITerm)
  | ofBool (b : BTerm)
  | floor (x : NTerm)
  | ceil (x : NTerm)
inductive NTerm where
  | atom (k : Nat)
  | ofInt (a : ITerm)
  | add (a b : NTerm)
  | sub (a b : NTerm)
  | mul (a b : NTerm)
  | div (a b : NTerm)
  | neg (a : NTerm)
  | fmod (a b : NTerm)
  | exp (a : NTerm)
  | log (a : NTerm)
  | sqrt (a : NTerm)
inductive BTerm where
  | lit (b : Bool)
  | atom (k : Nat)
  | not (b : BTerm)
  | ilt (a b : ITerm)
  | ile (a b : ITerm)
  | ieq (a b : ITerm)
  | nlt (a b : NTerm)
  | nle (a b : NTerm)
  | neq (a b : NTerm)
end

deriving instance DecidableEq for ITerm, NTerm, BTerm

/-- a valuation of the atoms -/
structure Rho (K : Type) where
  i : Nat → Int
  n : Nat → K
  b : Nat → Bool

mutual
def ITerm.eval {K : Type} [PyNum K] (ρ : Rho K) : ITerm → Int
  | .lit i => i
  | .atom k => ρ.i k
  | .add a b => a.eval ρ + b.eval ρ
  | .sub a b => a.eval ρ - b.eval ρ
  | .mul a b => a.eval ρ * b.eval ρ
  | .neg a => - a.eval ρ
  | .fdiv a b => Int.fdiv (a.eval ρ) (b.eval ρ)
  | .fmod a b => Int.fmod (a.eval ρ) (b.eval ρ)
  | .ofBool b => if b.eval ρ then 1 else 0
  | .floor x => PyNum.floor (x.eval ρ)
  | .ceil x => PyNum.ceil (x.eval ρ)
def NTerm.eval {K : Type} [PyNum K] (ρ : Rho K) : NTerm → K
  | .atom k => ρ.n k
  | .ofInt a => PyNum.ofInt (a.eval ρ)
  | .add a b => a.eval ρ + b.eval ρ
  | .sub a b => a.eval ρ - b.eval ρ
  | .mul a b => a.eval ρ * b.eval ρ
  | .div a b => a.eval ρ / b.eval ρ
  | .neg a => - a.eval ρ
  | .fmod a b => PyNum.fmod (a.eval ρ) (b.eval ρ)
  | .exp a => PyNum.exp (a.eval ρ)
  | .log a => PyNum.log (a.eval ρ)
  | .sqrt a => PyNum.sqrt (a.eval ρ)
def BTerm.eval {K : Type} [PyNum K] (ρ : Rho K) : BTerm → Bool
  | .lit b => b
  | .atom k => ρ.b k
  | .not b => !b.eval ρ
  | .ilt a b => decide (a.eval ρ < b.eval ρ)
  | .ile a b => decide (a.eval ρ ≤ b.eval ρ)
  | .ieq a b => decide (a.eval ρ = b.eval ρ)
  | .nlt a b => decide (a.eval ρ < b.eval ρ)
  | .nle a b => decide (a.eval ρ ≤ b.eval ρ)
  | .neq a b => PyNum.beq (a.eval ρ) (b.eval ρ)
end

/-! smart constructors: literal folding (so that concrete runs never branch) -/
def ITerm.mkSub : ITerm → ITerm → ITerm
  | .lit a, .lit b => .lit (a - b)
  | a, b => if a = b then .lit 0 else .sub a b
def ITerm.mkAdd : ITerm → ITerm → ITerm
  | .lit a, .lit b => .lit (a + b)
  | a, .neg b => ITerm.mkSub a b
  | a, b => .add a b
def ITerm.mkMul : ITerm → ITerm → ITerm
  | .lit a, .lit b => .lit (a * b)
  | a, b => .mul a b
def ITerm.mkNeg : ITerm → ITerm
  | .lit a => .lit (-a)
  | a => .neg a
def ITerm.mkFdiv : ITerm → ITerm → ITerm
  | .lit a, .lit b => .lit (Int.fdiv a b)
  | a, b => .fdiv a b
def ITerm.mkFmod : ITerm → ITerm → ITerm
  | .lit a, .lit b => .lit (Int.fmod a b)
  | a, b => .fmod a b
def ITerm.mkOfBool : BTerm → ITerm
  | .lit b => .lit (if b then 1 else 0)
  | b => .ofBool b
def BTerm.mkNot : BTerm → BTerm
  | .lit b => .lit (!b)
  | .not b => b
  | b => .not b
/-! comparisons of a difference with zero are comparisons of its operands (`a - b < 0 ⇔ a < b` on
unbounded integers): the volume bookkeeping of the matching loop then asks questions about the
volumes themselves, which the path pruning can relate to what was asked before -/
def BTerm.mkIlt : ITerm → ITerm → BTerm
  | .lit a, .lit b => .lit (decide (a < b))
  | .sub a b, .lit 0 => if a = b then .lit false else .ilt a b
  | .lit 0, .sub a b => if a = b then .lit false else .ilt b a
  | a, b => if a = b then .lit false else .ilt a b
def BTerm.mkIle : ITerm → ITerm → BTerm
  | .lit a, .lit b => .lit (decide (a ≤ b))
  | .sub a b, .lit 0 => if a = b then .lit true else .ile a b
  | .lit 0, .sub a b => if a = b then .lit true else .ile b a
  | a, b => if a = b then .lit true else .ile a b
def BTerm.mkIeq : ITerm → ITerm → BTerm
  | .lit a, .lit b => .lit (decide (a = b))
  | .sub a b, .lit 0 => if a = b then .lit true else .ieq a b
  | .lit 0, .sub a b => if a = b then .lit true else .ieq a b
  | a, b => if a = b then .lit true else .ieq a b

/-! ### decision trees -/

inductive Tree (α : Type) where
  | leaf (a : α)
  | node (c : BTerm) (t f : Unit → Tree α)

namespace Tree
variable {α β : Type}

def bind : Tree α → (α → Tree β) → Tree β
  | leaf a, g => g a
  | node c t f, g => node c (fun u => (t u).bind g) (fun u => (f u).bind g)

def map (g : α → β) : Tree α → Tree β
  | leaf a => leaf (g a)
  | node c t f => node c (fun u => (t u).map g) (fun u => (f u).map g)

/-- the leaf reached under a valuation -/
def denote {K : Type} [PyNum K] (ρ : Rho K) : Tree α → α
  | leaf a => a
  | node c t f => if c.eval ρ then (t ()).denote ρ else (f ()).denote ρ

/-- all root-to-leaf paths: the branch conditions with the side taken, and the leaf -/
def paths : Tree α → List (List (BTerm × Bool) × α)
  | leaf a => [([], a)]
  | node c t f =>
    ((t ()).paths.map (fun p => ((c, true) :: p.1, p.2))) ++
    ((f ()).paths.map (fun p => ((c, false) :: p.1, p.2)))

/-! Pruned path enumeration: a node whose condition (up to negations) was already decided higher up
on the path is not a choice point — only the consistent branch is followed (and the other one is
never evaluated: the subtrees are thunks).  This is what keeps the symbolic execution of loops
finite: without it a `while` whose exit test repeats an earlier test is unrolled along
contradictory paths until the fuel runs out. -/

/-- strip negations: the positive condition and whether its value is flipped -/
def _root_.Pams.Py.BTerm.core : BTerm → BTerm × Bool
  | .not c => (c.core.1, !c.core.2)
  | c => (c, false)

theorem _root_.Pams.Py.BTerm.core_eval {K : Type} [PyNum K] (ρ : Rho K) :
    ∀ c : BTerm, c.eval ρ = ((c.core.1.eval ρ) ^^ c.core.2)
  | .not c => by
    have ih := BTerm.core_eval ρ c
    simp only [BTerm.eval, BTerm.core, ih]
    cases c.core.1.eval ρ <;> cases c.core.2 <;> rfl
  | .lit _ | .atom _ | .ilt _ _ | .ile _ _ | .ieq _ _ | .nlt _ _ | .nle _ _ | .neq _ _ => by
    simp [BTerm.core]

def lookupB (d : BTerm) : List (BTerm × Bool) → Option Bool
  | [] => match d with
    | .neq a b => if a = b then some true else none     -- `x == x` on floats (no NaN: hypothesis `hrefl` below)
    | _ => none
  | (c, b) :: rest => if c = d then some b else lookupB d rest

theorem lookupB_sound {K : Type} [PyNum K] (hrefl : ∀ x : K, PyNum.beq x x = true) (ρ : Rho K) (d : BTerm) :
    ∀ (known : List (BTerm × Bool)) (b : Bool), (∀ kb ∈ known, kb.1.eval ρ = kb.2) →
      lookupB d known = some b → d.eval ρ = b
  | [], b, _, h => by
    unfold lookupB at h
    split at h
    · split at h
      · next hxy => cases h; subst hxy; simp [BTerm.eval, hrefl]
      · cases h
    · cases h
  | (c, v) :: rest, b, hk, h => by
    unfold lookupB at h
    split at h
    · next hc => cases h; exact hc ▸ hk (c, v) List.mem_cons_self
    · exact lookupB_sound hrefl ρ d rest b (fun kb hkb => hk kb (List.mem_cons_of_mem _ hkb)) h

/-- root-to-leaf paths pruned by a decision function `dec known c` ("is `c` already decided by the
conditions `known` of this path?"); `known`: the positive conditions decided so far with their values.
A decided node is not a choice point: only the consistent branch is followed (and the other one is
never evaluated). -/
def pathsD (dec : List (BTerm × Bool) → BTerm → Option Bool) (known : List (BTerm × Bool)) :
    Tree α → List (List (BTerm × Bool) × α)
  | leaf a => [([], a)]
  | node c t f =>
    match dec known c.core.1 with
    | some b => if (b ^^ c.core.2) then (t ()).pathsD dec known else (f ()).pathsD dec known
    | none =>
      ((t ()).pathsD dec ((c.core.1, !c.core.2) :: known)).map (fun p => ((c, true) :: p.1, p.2)) ++
      ((f ()).pathsD dec ((c.core.1, c.core.2) :: known)).map (fun p => ((c, false) :: p.1, p.2))

/-- soundness of the pruned enumeration, for any decision function that is sound under `ρ` -/
theorem denote_of_pathsD {K : Type} [PyNum K] (ρ : Rho K) (dec : List (BTerm × Bool) → BTerm → Option Bool)
    (hdec : ∀ (known : List (BTerm × Bool)) (d : BTerm) (b : Bool), (∀ kb ∈ known, kb.1.eval ρ = kb.2) →
      dec known d = some b → d.eval ρ = b) (Q : α → Prop) :
    ∀ (t : Tree α) (known : List (BTerm × Bool)), (∀ kb ∈ known, kb.1.eval ρ = kb.2) →
      (∀ p ∈ t.pathsD dec known, (∀ cb ∈ p.1, cb.1.eval ρ = cb.2) → Q p.2) → Q (t.denote ρ)
  | leaf a, _, _, h => h ([], a) (List.mem_singleton_self _) (List.forall_mem_nil _)
  | node c t f, known, hk, h => by
    have hce := BTerm.core_eval ρ c
    unfold pathsD at h
    unfold denote
    split at h
    · next b hb =>
      -- decided: the run goes where the pruner says
      rw [hce, hdec known c.core.1 b hk hb]
      split <;> rename_i hx
      · exact denote_of_pathsD ρ dec hdec Q (t ()) known hk (by simpa [hx] using h)
      · exact denote_of_pathsD ρ dec hdec Q (f ()) known hk (by simpa [hx] using h)
    · -- a choice point: the branch taken extends what is known
      have ext (v w : Bool) (hv : c.eval ρ = v) (hw : (v ^^ c.core.2) = w) :
          ∀ kb ∈ (c.core.1, w) :: known, kb.1.eval ρ = kb.2 :=
        List.forall_mem_cons.2 ⟨by rw [← hw, ← hv, hce, Bool.xor_assoc, Bool.xor_self, Bool.xor_false], hk⟩
      cases hc : c.eval ρ
      · exact denote_of_pathsD ρ dec hdec Q (f ()) _ (ext false _ hc (Bool.false_xor _)) fun p hp hq =>
          h ((c, false) :: p.1, p.2) (List.mem_append_right _ (List.mem_map_of_mem hp))
            (List.forall_mem_cons.2 ⟨hc, hq⟩)
      · exact denote_of_pathsD ρ dec hdec Q (t ()) _ (ext true _ hc (Bool.true_xor _)) fun p hp hq =>
          h ((c, true) :: p.1, p.2) (List.mem_append_left _ (List.mem_map_of_mem hp))
            (List.forall_mem_cons.2 ⟨hc, hq⟩)

theorem pathsD_none (t : Tree α) (known : List (BTerm × Bool)) : t.pathsD (fun _ _ => none) known = t.paths := by
  induction t generalizing known with
  | leaf a => rfl
  | node c t f iht ihf => simp only [pathsD, paths, iht, ihf]

/-- a property of the leaf reached follows from the same property of every path whose conditions
hold -/
theorem denote_of_paths {K : Type} [PyNum K] (ρ : Rho K) (Q : α → Prop) (t : Tree α)
    (h : ∀ p ∈ t.paths, (∀ cb ∈ p.1, cb.1.eval ρ = cb.2) → Q p.2) : Q (t.denote ρ) :=
  denote_of_pathsD ρ (fun _ _ => none) (fun _ _ _ _ h => by cases h) Q t [] (fun _ h => by cases h)
    (by rwa [pathsD_none])

/-- root-to-leaf paths that are not *syntactically* contradictory (decision: the same condition, up to
negations, occurred before; `x == x` on floats) -/
def pathsP (known : List (BTerm × Bool)) (t : Tree α) : List (List (BTerm × Bool) × α) :=
  t.pathsD (fun k d => lookupB d k) known

theorem denote_of_pathsP {K : Type} [PyNum K] (hrefl : ∀ x : K, PyNum.beq x x = true) (ρ : Rho K) (Q : α → Prop)
    (t : Tree α) (known : List (BTerm × Bool)) (hk : ∀ kb ∈ known, kb.1.eval ρ = kb.2)
    (h : ∀ p ∈ t.pathsP known, (∀ cb ∈ p.1, cb.1.eval ρ = cb.2) → Q p.2) : Q (t.denote ρ) :=
  denote_of_pathsD ρ (fun k d => lookupB d k)
    (fun known d b hk hb => lookupB_sound hrefl ρ d known b hk hb) Q t known hk h

end Tree

/-! ### syntax -/

inductive BinOp | add | sub | mul | div | floordiv | mod | pow
deriving Repr, DecidableEq
inductive CmpOp | eq | ne | lt | le | gt | ge | is | isNot | isIn | notIn
deriving Repr, DecidableEq
inductive UnOp | not | neg
deriving Repr, DecidableEq

inductive Expr where
  | cnone
  | cbool (b : Bool)
  | cint (i : Int)
  /-- float literal `n / d` (exactly the literal's decimal value) -/
  | cflt (n d : Nat)
  | cstr (s : String)
  | name (x : String)
  | attr (e : Expr) (a : String)
  | bin (op : BinOp) (l r : Expr)
  | un (op : UnOp) (e : Expr)
  | and_ (l r : Expr)
  | or_ (l r : Expr)
  | cmp (op : CmpOp) (l r : Expr)
  | ife (c t e : Expr)
  | call (f : Expr) (args : List Expr) (kwNames : List String) (kwVals : List Expr)
  | sub (e i : Expr)
  | lst (es : List Expr)
  /-- list comprehension with one generator: `[elt for target in iter if c₁ if c₂ …]` -/
  | comp (elt target iter : Expr) (conds : List Expr)
deriving Repr

inductive Stmt where
  | expr (e : Expr)
  | assign (target : Expr) (e : Expr)
  | aug (target : Expr) (op : BinOp) (e : Expr)
  | ifs (c : Expr) (t e : List Stmt)
  | ret (e : Expr)
  | raise (exc : String)
  | assert_ (c : Expr)
  | for_ (target : Expr) (iter : Expr) (body : List Stmt)
  | while_ (c : Expr) (body : List Stmt)
  | def_ (name : String) (params : List String) (defaults : List (Option Expr)) (body : List Stmt)
  | continue_
  | break_
  | pass
deriving Repr

structure FunDef where
  params : List String
  /-- default value expressions, aligned with `params` -/
  defaults : List (Option Expr)
  body : List Stmt
  isProperty : Bool := false
deriving Repr

/-! ### values, state, monad -/

inductive Val where
  | none
  | bool (b : BTerm)
  | int (i : ITerm)
  | num (x : NTerm)
  | str (s : String)
  | ref (a : Nat)
  | list (l : List Val)
  | dict (ks vs : List Val)
  | clo (f : FunDef)

inductive Err where
  | raise (exc : String)
  | fuel
  | unsupported (what : String)
  | unbound (x : String)
deriving Repr, DecidableEq

inductive Flow where
  | normal
  | ret (v : Val)
  | brk
  | cont

abbrev Vars := List (String × Val)

structure Call where
  recv : Val
  fn : String
  args : List Val

structure St where
  heap : Nat → String → Option Val
  /-- extern calls performed so far, most recent first -/
  calls : List Call
  /-- the address the next object created by the program gets -/
  next : Nat := 1000

/-- oracle for calls that leave the translated fragment -/
abbrev Ext := St → Val → String → List Val → Option (Val × St)

structure Env where
  prog : List (String × FunDef)
  globals : String → Option Val
  ext : Ext
  /-- a class and its ancestors, for `isinstance` (default: a class has no ancestors) -/
  mro : String → List String := fun c => [c]

/-- computations: a decision tree of results -/
def M (α : Type) := Tree (Except Err α)

namespace M
variable {α β : Type}
def pure (a : α) : M α := Tree.leaf (.ok a)
def fail (e : Err) : M α := Tree.leaf (.error e)
def bind (x : M α) (g : α → M β) : M β :=
  Tree.bind x (fun r => match r with | .ok a => g a | .error e => Tree.leaf (.error e))
instance : Monad M where
  pure := M.pure
  bind := M.bind
/-- branch on a boolean term; literal conditions do not create a node -/
def branch : BTerm → M Bool
  | .lit b => M.pure b
  | c => Tree.node c (fun _ => M.pure true) (fun _ => M.pure false)
end M

def St.set (st : St) (a : Nat) (f : String) (v : Val) : St :=
  { st with heap := fun a' f' => if a' = a ∧ f' = f then some v else st.heap a' f' }

def lookupVar (x : String) : Vars → Option Val
  | [] => Option.none
  | (y, v) :: rest => if x = y then some v else lookupVar x rest

def setVar (x : String) (v : Val) : Vars → Vars
  | [] => [(x, v)]
  | (y, w) :: rest => if x = y then (y, v) :: rest else (y, w) :: setVar x v rest

def lookupFun (x : String) : List (String × FunDef) → Option FunDef
  | [] => Option.none
  | (y, f) :: rest => if x = y then some f else lookupFun x rest

/-- truthiness, as a boolean term -/
def truthyT : Val → BTerm
  | .none => .lit false
  | .bool b => b
  | .int i => (BTerm.mkIeq i (.lit 0)).mkNot
  | .num x => (BTerm.neq x (.ofInt (.lit 0))).mkNot
  | .str s => .lit (s ≠ "")
  | .ref _ => .lit true
  | .list l => .lit (!l.isEmpty)
  | .dict ks _ => .lit (!ks.isEmpty)
  | .clo _ => .lit true

def truthy (v : Val) : M Bool := M.branch (truthyT v)

/-- the float a numeric value stands for -/
def asNum : Val → Option NTerm
  | .num x => some x
  | .int i => some (.ofInt i)
  | .bool b => some (.ofInt (ITerm.mkOfBool b))
  | _ => Option.none

def asInt : Val → Option ITerm
  | .int i => some i
  | .bool b => some (ITerm.mkOfBool b)
  | _ => Option.none

/-- `==` on values without a user-defined `__eq__` (a boolean term) -/
def primEq : Val → Val → Except Err BTerm
  | .none, .none => .ok (.lit true)
  | .str a, .str b => .ok (.lit (a = b))
  | .ref a, .ref b => .ok (.lit (a = b))
  | .num a, .num b => .ok (.neq a b)
  | .num a, .int b => .ok (.neq a (.ofInt b))
  | .int a, .num b => .ok (.neq (.ofInt a) b)
  | .num a, .bool b => .ok (.neq a (.ofInt (ITerm.mkOfBool b)))
  | .bool a, .num b => .ok (.neq (.ofInt (ITerm.mkOfBool a)) b)
  | .int a, .int b => .ok (BTerm.mkIeq a b)
  | .int a, .bool b => .ok (BTerm.mkIeq a (ITerm.mkOfBool b))
  | .bool a, .int b => .ok (BTerm.mkIeq (ITerm.mkOfBool a) b)
  | .bool a, .bool b => .ok (BTerm.mkIeq (ITerm.mkOfBool a) (ITerm.mkOfBool b))
  | .list a, .list b =>
    -- tuples / lists of literals (dictionary keys such as `(market_id1, market_id2)`): decided at once
    let rec lits : List Val → Option (List Int)
      | [] => some []
      | .int (.lit i) :: r => (lits r).map (i :: ·)
      | _ => Option.none
    match lits a, lits b with
    | some x, some y => .ok (.lit (x == y))
    | _, _ => .error (.unsupported "== on sequences")
  | .dict _ _, .dict _ _ => .error (.unsupported "== on dicts")
  | .clo _, _ => .error (.unsupported "== on functions")
  | _, .clo _ => .error (.unsupported "== on functions")
  | _, _ => .ok (.lit false)

/-- `<` on numbers (anything else is a `TypeError` in Python) -/
def primLt (a b : Val) : Except Err BTerm :=
  match asInt a, asInt b with
  | some x, some y => .ok (BTerm.mkIlt x y)
  | _, _ =>
    match asNum a, asNum b with
    | some x, some y => .ok (.nlt x y)
    | _, _ =>
      match a, b with
      | .str _, .str _ => .error (.unsupported "< on str")
      | _, _ => .error (.raise "TypeError")

def primLe (a b : Val) : Except Err BTerm :=
  match asInt a, asInt b with
  | some x, some y => .ok (BTerm.mkIle x y)
  | _, _ =>
    match asNum a, asNum b with
    | some x, some y => .ok (.nle x y)
    | _, _ =>
      match a, b with
      | .str _, .str _ => .error (.unsupported "<= on str")
      | _, _ => .error (.raise "TypeError")

/-- `is` -/
def primIs : Val → Val → Except Err BTerm
  | .none, .none => .ok (.lit true)
  | .ref a, .ref b => .ok (.lit (a = b))
  | .bool a, .bool b => .ok (BTerm.mkIeq (ITerm.mkOfBool a) (ITerm.mkOfBool b))
  | .none, _ => .ok (.lit false)
  | _, .none => .ok (.lit false)
  | .ref _, _ => .ok (.lit false)
  | _, .ref _ => .ok (.lit false)
  | .bool _, _ => .ok (.lit false)
  | _, .bool _ => .ok (.lit false)
  | _, _ => .error (.unsupported "is on unboxed values")

def liftE {α : Type} : Except Err α → M α
  | .ok a => M.pure a
  | .error e => M.fail e

def arith (op : BinOp) (a b : Val) : M Val :=
  match op with
  | .add | .sub | .mul =>
    (match asInt a, asInt b with
     | some x, some y =>
       M.pure (.int (match op with | .add => ITerm.mkAdd x y | .sub => ITerm.mkSub x y | _ => ITerm.mkMul x y))
     | _, _ =>
       match asNum a, asNum b with
       | some x, some y =>
         M.pure (.num (match op with | .add => .add x y | .sub => .sub x y | _ => .mul x y))
       | _, _ =>
         match op, a, b with
         | .add, .list x, .list y => M.pure (.list (x ++ y))
         | .add, .str x, .str y => M.pure (.str (x ++ y))
         | _, _, _ => M.fail (.raise "TypeError"))
  | .div =>
    (match asNum a, asNum b with
     | some x, some y => do
       if (← M.branch (.neq y (.ofInt (.lit 0)))) then M.fail (.raise "ZeroDivisionError")
       else M.pure (.num (.div x y))
     | _, _ => M.fail (.raise "TypeError"))
  | .floordiv =>
    (match asInt a, asInt b with
     | some x, some y => do
       if (← M.branch (BTerm.mkIeq y (.lit 0))) then M.fail (.raise "ZeroDivisionError")
       else M.pure (.int (ITerm.mkFdiv x y))
     | _, _ => M.fail (.unsupported "// on floats"))
  | .mod =>
    (match asInt a, asInt b with
     | some x, some y => do
       if (← M.branch (BTerm.mkIeq y (.lit 0))) then M.fail (.raise "ZeroDivisionError")
       else M.pure (.int (ITerm.mkFmod x y))
     | _, _ =>
       match asNum a, asNum b with
       | some x, some y => do
         if (← M.branch (.neq y (.ofInt (.lit 0)))) then M.fail (.raise "ZeroDivisionError")
         else M.pure (.num (.fmod x y))
       | _, _ => M.fail (.raise "TypeError"))
  | .pow => M.fail (.unsupported "**")

/-- membership `x in container` by identity-or-primitive-equality -/
def memList (x : Val) : List Val → M Bool
  | [] => M.pure false
  | y :: ys => do
    let c ← liftE (primEq x y)
    if (← M.branch c) then M.pure true else memList x ys

/-- the distinct items of a list in order of first occurrence (the keys of `dict.fromkeys(l)`) -/
def dedupKeys (acc : List Val) : List Val → M (List Val)
  | [] => M.pure acc
  | x :: xs => do
    if (← memList x acc) then dedupKeys acc xs else dedupKeys (acc ++ [x]) xs

def dictGet (k : Val) : List Val → List Val → M (Option Val)
  | y :: ys, v :: vs => do
    let c ← liftE (primEq k y)
    if (← M.branch c) then M.pure (some v) else dictGet k ys vs
  | _, _ => M.pure Option.none

def dictSet (k v : Val) : List Val → List Val → M (List Val × List Val)
  | y :: ys, w :: ws => do
    let c ← liftE (primEq k y)
    if (← M.branch c) then M.pure (y :: ys, v :: ws)
    else do
      let (ks, vs) ← dictSet k v ys ws
      M.pure (y :: ks, w :: vs)
  | _, _ => M.pure ([k], [v])

def dictDel (k : Val) : List Val → List Val → M (List Val × List Val)
  | y :: ys, w :: ws => do
    let c ← liftE (primEq k y)
    if (← M.branch c) then M.pure (ys, ws)
    else do
      let (ks, vs) ← dictDel k ys ws
      M.pure (y :: ks, w :: vs)
  | _, _ => M.pure ([], [])

def zipPairs : List Val → List Val → List Val
  | k :: ks, v :: vs => .list [k, v] :: zipPairs ks vs
  | _, _ => []

/-- scan for the position a symbolic index denotes: `step` is `+1` from `0` over the list (non-negative
indices) or `-1` from `-1` over the reversed list (Python counts negative indices from the end) -/
def symIdxScan (t : ITerm) (step : Int) : Int → List Val → M (Option Val)
  | _, [] => M.pure Option.none
  | k, v :: vs => do
    if (← M.branch (BTerm.mkIeq t (.lit k))) then M.pure (some v) else symIdxScan t step (k + step) vs

/-- `l[t]` for a symbolic int `t`: one branch per position `0 … n−1`, then per negative index `−1 … −n`,
else `IndexError` -/
def symIndex (l : List Val) (t : ITerm) : M Val := do
  match (← symIdxScan t 1 0 l) with
  | some v => M.pure v
  | Option.none =>
    match (← symIdxScan t (-1) (-1) l.reverse) with
    | some v => M.pure v
    | Option.none => M.fail (.raise "IndexError")

def listIndex (l : List Val) (i : Int) : M Val :=
  let j : Int := if i < 0 then i + l.length else i
  if j < 0 then M.fail (.raise "IndexError") else
  match l[j.toNat]? with
  | some v => M.pure v
  | Option.none => M.fail (.raise "IndexError")

def numAbs (v : Val) : M Val :=
  match v with
  | .int i => do
    if (← M.branch (BTerm.mkIlt i (.lit 0))) then M.pure (.int (ITerm.mkNeg i)) else M.pure (.int i)
  | .bool b => M.pure (.int (ITerm.mkOfBool b))
  | .num x => do
    -- `Arith.abs`: `-x` if `x < 0` else `x`
    if (← M.branch (.nlt x (.ofInt (.lit 0)))) then M.pure (.num (.neg x)) else M.pure (.num x)
  | _ => M.fail (.raise "TypeError")

/-- Python's two-argument `max` / `min` (`max(a, b)` is `b` if `b > a` else `a`) -/
def pyMax (a b : Val) : M Val := do
  let c ← liftE (primLt a b)
  if (← M.branch c) then M.pure b else M.pure a
def pyMin (a b : Val) : M Val := do
  let c ← liftE (primLt b a)
  if (← M.branch c) then M.pure b else M.pure a

/-- `max(xs)` / `min(xs)` of a non-empty sequence: the first maximal / minimal element -/
def maxList (acc : Val) : List Val → M Val
  | [] => M.pure acc
  | x :: xs => do
    let c ← liftE (primLt acc x)
    if (← M.branch c) then maxList x xs else maxList acc xs
def minList (acc : Val) : List Val → M Val
  | [] => M.pure acc
  | x :: xs => do
    let c ← liftE (primLt x acc)
    if (← M.branch c) then minList x xs else minList acc xs

/-- `sum(xs)`: left fold of `+` from `0` -/
def sumList (acc : Val) : List Val → M Val
  | [] => M.pure acc
  | x :: xs => do
    let a ← arith .add acc x
    sumList a xs

def rangeList (n : Nat) : List Val := (List.range n).map (fun (i : Nat) => Val.int (.lit (Int.ofNat i)))

/-- builtins and library functions with a fixed meaning; `none` = not a builtin -/
def builtin (fn : String) (args : List Val) : Option (M Val) :=
  match fn, args with
  | "abs", [v] => some (numAbs v)
  | "max", [a, b] => some (pyMax a b)
  | "min", [a, b] => some (pyMin a b)
  | "max", [.list (x :: xs)] => some (maxList x xs)
  | "min", [.list (x :: xs)] => some (minList x xs)
  | "max", [.list []] => some (M.fail (.raise "ValueError"))
  | "min", [.list []] => some (M.fail (.raise "ValueError"))
  | "sum", [.list l] => some (sumList (.int (.lit 0)) l)
  | "sum", [.list l, start] => some (sumList start l)
  | "cast", [_, v] => some (M.pure v)
  | "__len_set", [.list l] => some (do
      -- `len(set(xs))` (the translator's name for it): the number of distinct items
      let ks ← dedupKeys [] l
      M.pure (.int (.lit ks.length)))
  | "__dict_merge", [.list pairs, .dict ks2 vs2] => some (do
      -- `dict(pairs, **d)` (the translator's name for it): insert the pairs in order, then the items of `d`
      -- (a key already present keeps its position and takes the new value)
      let rec ins : List Val → List Val → List Val → M (List Val × List Val)
        | [], ks, vs => M.pure (ks, vs)
        | (.list [k, v]) :: rest, ks, vs => do
          let (ks', vs') ← dictSet k v ks vs
          ins rest ks' vs'
        | _ :: _, _, _ => M.fail (.raise "TypeError")
      let (ks, vs) ← ins pairs [] []
      let (ks, vs) ← ins (zipPairs ks2 vs2) ks vs
      M.pure (.dict ks vs))
  | "dict.fromkeys", [.list l] => some (do
      let ks ← dedupKeys [] l
      M.pure (.dict ks (ks.map (fun _ => Val.none))))
  -- `isinstance(v, T)` for the built-in scalar types (`bool` is a subclass of `int`)
  | "isinstance", [v, .str "int"] => some (M.pure (.bool (.lit (match v with | .int _ => true | .bool _ => true | _ => false))))
  | "isinstance", [v, .str "bool"] => some (M.pure (.bool (.lit (match v with | .bool _ => true | _ => false))))
  | "isinstance", [v, .str "float"] => some (M.pure (.bool (.lit (match v with | .num _ => true | _ => false))))
  | "isinstance", [v, .str "list"] => some (M.pure (.bool (.lit (match v with | .list _ => true | _ => false))))
  | "isinstance", [v, .str "dict"] => some (M.pure (.bool (.lit (match v with | .dict _ _ => true | _ => false))))
  | "isinstance", [v, .str "str"] => some (M.pure (.bool (.lit (match v with | .str _ => true | _ => false))))
  | "warnings.warn", _ => some (M.pure .none)
  | "len", [.list l] => some (M.pure (.int (.lit l.length)))
  | "len", [.dict ks _] => some (M.pure (.int (.lit ks.length)))
  | "len", [.str s] => some (M.pure (.int (.lit s.length)))
  -- `float("inf")`: a reserved num atom, whose valuation is +∞ (drivers) / bounds every price (theorems)
  | "float", [.str "inf"] => some (M.pure (.num (.atom 1000000)))
  | "float", [v] => some (match asNum v with | some x => M.pure (.num x) | Option.none => M.fail (.raise "TypeError"))
  | "int", [.int i] => some (M.pure (.int i))
  | "int", [.bool b] => some (M.pure (.int (ITerm.mkOfBool b)))
  | "int", [.num x] => some (do
      -- `int(float)` truncates toward zero
      if (← M.branch (.nlt x (.ofInt (.lit 0)))) then M.pure (.int (.ceil x)) else M.pure (.int (.floor x)))
  | "bool", [v] => some (M.pure (.bool (truthyT v)))
  | "list", [.list l] => some (M.pure (.list l))
  | "list", [.dict ks _] => some (M.pure (.list ks))
  | "range", [.int (.lit n)] => some (M.pure (.list (rangeList n.toNat)))
  | "range", [.int (.lit a), .int (.lit b)] =>
    some (M.pure (.list ((List.range (b - a).toNat).map (fun (i : Nat) => Val.int (.lit (a + Int.ofNat i))))))
  | "math.floor", [v] => some (match v with
      | .num x => M.pure (.int (.floor x)) | .int i => M.pure (.int i) | _ => M.fail (.raise "TypeError"))
  | "math.ceil", [v] => some (match v with
      | .num x => M.pure (.int (.ceil x)) | .int i => M.pure (.int i) | _ => M.fail (.raise "TypeError"))
  | "math.exp", [v] => some (match asNum v with | some x => M.pure (.num (.exp x)) | Option.none => M.fail (.raise "TypeError"))
  | "math.log", [v] => some (match asNum v with | some x => M.pure (.num (.log x)) | Option.none => M.fail (.raise "TypeError"))
  | "math.sqrt", [v] => some (match asNum v with | some x => M.pure (.num (.sqrt x)) | Option.none => M.fail (.raise "TypeError"))
  | _, _ => Option.none

/-- methods of container values -/
def containerMethod (recv : Val) (m : String) (args : List Val) : Option (M Val) :=
  match recv, m, args with
  | .dict _ vs, "values", [] => some (M.pure (.list vs))
  | .dict ks _, "keys", [] => some (M.pure (.list ks))
  | .dict ks vs, "items", [] => some (M.pure (.list (zipPairs ks vs)))
  | .dict ks vs, "copy", [] => some (M.pure (.dict ks vs))       -- containers are values: a copy is the value
  | .list l, "copy", [] => some (M.pure (.list l))
  | .dict ks vs, "get", [k] => some (do
      match (← dictGet k ks vs) with | some v => M.pure v | Option.none => M.pure .none)
  | .dict ks vs, "get", [k, d] => some (do
      match (← dictGet k ks vs) with | some v => M.pure v | Option.none => M.pure d)
  | _, _, _ => Option.none

def bindParams : List String → List (Option Expr) → List Val → List (String × Val) →
    Except Err (Vars × List (String × Expr))
  | [], _, [], _ => .ok ([], [])
  | [], _, _ :: _, _ => .error (.raise "TypeError")
  | p :: ps, ds, a :: as, kws =>
    match bindParams ps ds.tail as kws with
    | .ok (vs, pend) => .ok ((p, a) :: vs, pend)
    | .error e => .error e
  | p :: ps, ds, [], kws =>
    match lookupVar p kws with
    | some v =>
      (match bindParams ps ds.tail [] kws with
       | .ok (vs, pend) => .ok ((p, v) :: vs, pend)
       | .error e => .error e)
    | Option.none =>
      match ds.head? with
      | some (some e) =>
        (match bindParams ps ds.tail [] kws with
         | .ok (vs, pend) => .ok (vs, (p, e) :: pend)
         | .error e => .error e)
      | _ => .error (.raise "TypeError")

def dunderOf : CmpOp → Option String
  | .eq => some "__eq__" | .ne => some "__ne__" | .lt => some "__lt__" | .le => some "__le__"
  | .gt => some "__gt__" | .ge => some "__ge__" | _ => Option.none

/-- the definition of method `m` for an object of class `c`: the first one along `env.mro c` -/
def lookupMethod (env : Env) (c m : String) : Option FunDef :=
  (env.mro c).findSome? (fun k => lookupFun (k ++ "." ++ m) env.prog)

/-- the translated method `name` of the class of the object `a`, if `a` is an object with one -/
def userMethod (env : Env) (st : St) (a : Val) (name : Option String) : Option FunDef :=
  match a, name with
  | .ref addr, some d =>
    (match st.heap addr "__class__" with
     | some (.str c) => lookupMethod env c d
     | _ => Option.none)
  | _, _ => Option.none

/-- comparison of values without user-defined operators -/
def primCmp (op : CmpOp) (a b : Val) : M Val :=
  match op with
  | .eq => do M.pure (.bool (← liftE (primEq a b)))
  | .ne => do M.pure (.bool (← liftE (primEq a b)).mkNot)
  | .lt => do M.pure (.bool (← liftE (primLt a b)))
  | .le => do M.pure (.bool (← liftE (primLe a b)))
  | .gt => do M.pure (.bool (← liftE (primLt b a)))
  | .ge => do M.pure (.bool (← liftE (primLe b a)))
  | .is => do M.pure (.bool (← liftE (primIs a b)))
  | .isNot => do M.pure (.bool (← liftE (primIs a b)).mkNot)
  | .isIn =>
    (match b with
     | .list l => do M.pure (.bool (.lit (← memList a l)))
     | .dict ks _ => do M.pure (.bool (.lit (← memList a ks)))
     | _ => M.fail (.unsupported "in on a non-container"))
  | .notIn =>
    (match b with
     | .list l => do M.pure (.bool (.lit (!(← memList a l))))
     | .dict ks _ => do M.pure (.bool (.lit (!(← memList a ks))))
     | _ => M.fail (.unsupported "in on a non-container"))

/-- an extern call: answered by the oracle and logged -/
def callExt (env : Env) (recv : Val) (fn : String) (args : List Val) (st : St) : M (Val × St) :=
  match env.ext st recv fn args with
  | some (v, st') => M.pure (v, { st' with calls := { recv := recv, fn := fn, args := args } :: st'.calls })
  | Option.none => M.fail (.unsupported ("extern call without an answer: " ++ fn))

mutual

/-- expression evaluation -/
def eval (env : Env) : Nat → Expr → Vars → St → M (Val × St)
  | 0, _, _, _ => M.fail .fuel
  | n+1, e, vars, st =>
    match e with
    | .cnone => M.pure (.none, st)
    | .cbool b => M.pure (.bool (.lit b), st)
    | .cint i => M.pure (.int (.lit i), st)
    | .cflt a b =>
      -- an integral literal (`0.0`, `2.0`) is that integer as a float; otherwise the quotient, which is
      -- correctly rounded for numerator and denominator below 2^53 (the translator checks)
      if b = 1 then M.pure (.num (.ofInt (.lit a)), st)
      else M.pure (.num (.div (.ofInt (.lit a)) (.ofInt (.lit b))), st)
    | .cstr s => M.pure (.str s, st)
    | .name x =>
      match lookupVar x vars with
      | some v => M.pure (v, st)
      | Option.none =>
        match env.globals x with
        | some v => M.pure (v, st)
        | Option.none =>
          -- the built-in type objects (only ever passed to `cast` / compared by name)
          if x = "int" ∨ x = "float" ∨ x = "bool" ∨ x = "str" ∨ x = "list" ∨ x = "dict" then M.pure (.str x, st)
          else M.fail (.unbound x)
    | .attr e a => do
      let (v, st) ← eval env n e vars st
      getAttr env n v a st
    | .bin op l r => do
      let (a, st) ← eval env n l vars st
      let (b, st) ← eval env n r vars st
      let v ← arith op a b
      M.pure (v, st)
    | .un .not e => do
      let (a, st) ← eval env n e vars st
      M.pure (.bool (truthyT a).mkNot, st)
    | .un .neg e => do
      let (a, st) ← eval env n e vars st
      match a with
      | .int i => M.pure (.int (ITerm.mkNeg i), st)
      | .bool b => M.pure (.int (ITerm.mkNeg (ITerm.mkOfBool b)), st)
      | .num x => M.pure (.num (.neg x), st)
      | _ => M.fail (.raise "TypeError")
    | .and_ l r => do
      let (a, st) ← eval env n l vars st
      if (← truthy a) then eval env n r vars st else M.pure (a, st)
    | .or_ l r => do
      let (a, st) ← eval env n l vars st
      if (← truthy a) then M.pure (a, st) else eval env n r vars st
    | .cmp op l r => do
      let (a, st) ← eval env n l vars st
      let (b, st) ← eval env n r vars st
      cmpVals env n op a b st
    | .ife c t e => do
      let (a, st) ← eval env n c vars st
      if (← truthy a) then eval env n t vars st else eval env n e vars st
    | .sub e i => do
      let (a, st) ← eval env n e vars st
      let (j, st) ← eval env n i vars st
      match a with
      | .list l =>
        (match j with
         | .int (.lit k) => do M.pure ((← listIndex l k), st)
         | .int t => do M.pure ((← symIndex l t), st)
         | _ => M.fail (.unsupported "index that is not an int"))
      | .dict ks vs => do
        match (← dictGet j ks vs) with
        | some v => M.pure (v, st)
        | Option.none => M.fail (.raise "KeyError")
      | _ => M.fail (.unsupported "subscript")
    | .lst es => do
      let (vs, st) ← evalList env n es vars st
      M.pure (.list vs, st)
    | .comp elt target iter conds => do
      let (a, st) ← eval env n iter vars st
      match a with
      | .list l => do
        let (vs, st) ← evalComp env n elt target conds l vars st
        M.pure (.list vs, st)
      | .dict ks _ => do
        let (vs, st) ← evalComp env n elt target conds ks vars st
        M.pure (.list vs, st)
      | _ => M.fail (.raise "TypeError")
    | .call f args kwNames kwVals =>
      match f with
      | .name g =>
        (match lookupVar g vars with
         | some (.clo fd) => do
           let (as, st) ← evalList env n args vars st
           let (ks, st) ← evalList env n kwVals vars st
           callFun env n fd as (kwNames.zip ks) vars st
         | some _ => M.fail (.unsupported "call of a non-function value")
         | Option.none => do
           let (as, st) ← evalList env n args vars st
           let (ks, st) ← evalList env n kwVals vars st
           match g, as with
           | "len", [.ref a] => callMethod env n (.ref a) "__len__" [] [] st     -- `len(obj)` is `obj.__len__()`
           -- `isinstance(obj, C)` for an object and a class given by name: `C` is the object's class or one of
           -- its ancestors (`env.mro`, generated from the class statements of the source)
           | "issubclass", [.str c, .str d] => M.pure (.bool (.lit ((env.mro c).contains d)), st)
           | "isinstance", [.ref a, .str c] =>
             M.pure (.bool (.lit (match st.heap a "__class__" with | some (.str c') => (env.mro c').contains c | _ => false)), st)
           | _, _ =>
           match builtin g as with
           | some r => do M.pure ((← r), st)
           | Option.none =>
             match lookupFun g env.prog with
             | some fd => callFun env n fd as (kwNames.zip ks) [] st
             | Option.none =>
               match lookupFun (g ++ ".__init__") env.prog with
               | some fd => do
                 -- instantiation of a translated class: a fresh object, then its `__init__`
                 let a := st.next
                 let st := { (st.set a "__class__" (.str g)) with next := a + 1 }
                 let (_, st) ← callFun env n fd (.ref a :: as) (kwNames.zip ks) [] st
                 M.pure (.ref a, st)
               | Option.none => callExt env .none g (as ++ ks) st)
      | .attr (.name "heapq") hop =>
        -- `heapq` on a list held in an object's field.  Contract modelled: `q[0]` is the least element
        -- by the elements' `__lt__` (true of any heap, in particular of a sorted list): `heappush`
        -- inserts before the first element the new one is less than, `heappop` removes the least and
        -- sorts the rest, `heapify` sorts.  The positions of the other elements are CPython's heap
        -- layout there and (eventually) sorted order here: compared as multisets by the differential check.
        (match args with
         | target :: rest => do
           let (q, st) ← eval env n target vars st
           match q, hop, rest with
           | .list l, "heappush", [xe] => do
             let (x, st) ← eval env n xe vars st
             let (l', st) ← sortedInsert env n x l st
             let (_, st) ← storeField env n target (.list l') vars st
             M.pure (.none, st)
           | .list l, "heappop", [] =>
             (match l with
              | [] => M.fail (.raise "IndexError")
              | x :: xs => do
                -- the least element leaves; the others are put in order (CPython restores the heap
                -- property here, so that `q[0]` is the least of what is left — also when the list came
                -- in CPython's heap layout, which is not sorted)
                let (m, rest, st) ← popMin env n x xs st
                let (rest, st) ← sortAll env n rest st
                let (_, st) ← storeField env n target (.list rest) vars st
                M.pure (m, st))
           | .list l, "heapify", [] => do
             let (l', st) ← sortAll env n l st
             let (_, st) ← storeField env n target (.list l') vars st
             M.pure (.none, st)
           | _, _, _ => M.fail (.unsupported ("heapq." ++ hop))
         | [] => M.fail (.raise "TypeError"))
      | .attr (.name md) m =>
        (match lookupVar md vars, env.globals md with
         | Option.none, Option.none => do
           -- a module: `math.floor(x)`, `heapq.heappush(q, x)`, `warnings.warn(..)`
           let (as, st) ← evalList env n args vars st
           let (ks, st) ← evalList env n kwVals vars st
           match builtin (md ++ "." ++ m) as with
           | some r => do M.pure ((← r), st)
           | Option.none => callExt env .none (md ++ "." ++ m) (as ++ ks) st
         | _, _ => do
           let (rv, st) ← eval env n (.name md) vars st
           let (as, st) ← evalList env n args vars st
           let (ks, st) ← evalList env n kwVals vars st
           callMethod env n rv m as (kwNames.zip ks) st)
      | .attr r m => do
        let (rv, st) ← eval env n r vars st
        let (as, st) ← evalList env n args vars st
        let (ks, st) ← evalList env n kwVals vars st
        callMethod env n rv m as (kwNames.zip ks) st
      | _ => M.fail (.unsupported "call of a computed callee")

def evalList (env : Env) : Nat → List Expr → Vars → St → M (List Val × St)
  | 0, _, _, _ => M.fail .fuel
  | _+1, [], _, st => M.pure ([], st)
  | n+1, e :: es, vars, st => do
    let (v, st) ← eval env n e vars st
    let (vs, st) ← evalList env n es vars st
    M.pure (v :: vs, st)

/-- `a < b` as the program sees it (a user-defined `__lt__` is called), decided -/
def ltVals (env : Env) : Nat → Val → Val → St → M (Bool × St)
  | 0, _, _, _ => M.fail .fuel
  | n+1, a, b, st => do
    let (r, st) ← cmpVals env n .lt a b st
    let c ← truthy r
    M.pure (c, st)

/-- insert before the first element that `x` is less than -/
def sortedInsert (env : Env) : Nat → Val → List Val → St → M (List Val × St)
  | 0, _, _, _ => M.fail .fuel
  | _+1, x, [], st => M.pure ([x], st)
  | n+1, x, y :: ys, st => do
    let (c, st) ← ltVals env n x y st
    if c then M.pure (x :: y :: ys, st)
    else do
      let (r, st) ← sortedInsert env n x ys st
      M.pure (y :: r, st)

/-- the least element of `m :: rest` (first among equals) and the others in their order -/
def popMin (env : Env) : Nat → Val → List Val → St → M (Val × List Val × St)
  | 0, _, _, _ => M.fail .fuel
  | _+1, m, [], st => M.pure (m, [], st)
  | n+1, m, y :: ys, st => do
    let (c, st) ← ltVals env n y m st
    if c then do
      let (m', r, st) ← popMin env n y ys st
      M.pure (m', m :: r, st)
    else do
      let (m', r, st) ← popMin env n m ys st
      M.pure (m', y :: r, st)

/-- insertion sort by `__lt__` -/
def sortAll (env : Env) : Nat → List Val → St → M (List Val × St)
  | 0, _, _ => M.fail .fuel
  | _+1, [], st => M.pure ([], st)
  | n+1, x :: xs, st => do
    let (r, st) ← sortAll env n xs st
    sortedInsert env n x r st

/-- `item == x` as `list.__contains__` / `list.remove` evaluate it: identity first, then the
item's `__eq__` -/
def itemEq (env : Env) : Nat → Val → Val → St → M (Bool × St)
  | 0, _, _, _ => M.fail .fuel
  | n+1, item, x, st =>
    match item, x with
    | .ref a, .ref b =>
      if a = b then M.pure (true, st)
      else do
        let (r, st) ← cmpVals env n .eq item x st
        let c ← truthy r
        M.pure (c, st)
    | _, _ => do
      let (r, st) ← cmpVals env n .eq item x st
      let c ← truthy r
      M.pure (c, st)

def memListU (env : Env) : Nat → Val → List Val → St → M (Bool × St)
  | 0, _, _, _ => M.fail .fuel
  | _+1, _, [], st => M.pure (false, st)
  | n+1, x, y :: ys, st => do
    let (c, st) ← itemEq env n y x st
    if c then M.pure (true, st) else memListU env n x ys st

/-- `list.remove(x)`: drop the first item equal to `x` (`none` = no such item) -/
def removeFirst (env : Env) : Nat → Val → List Val → St → M (Option (List Val) × St)
  | 0, _, _, _ => M.fail .fuel
  | _+1, _, [], st => M.pure (Option.none, st)
  | n+1, x, y :: ys, st => do
    let (c, st) ← itemEq env n y x st
    if c then M.pure (some ys, st)
    else do
      let (r, st) ← removeFirst env n x ys st
      M.pure (r.map (y :: ·), st)

/-- store into a target that must be a heap location (not a local variable) -/
def storeField (env : Env) : Nat → Expr → Val → Vars → St → M (Unit × St)
  | 0, _, _, _, _ => M.fail .fuel
  | n+1, target, v, vars, st =>
    match target with
    | .attr _ _ => do
      let (_, st) ← store env n target v vars st
      M.pure ((), st)
    | _ => M.fail (.unsupported "heapq on a local list")

/-- the elements of a comprehension (its variable lives in a frame of its own) -/
def evalComp (env : Env) : Nat → Expr → Expr → List Expr → List Val → Vars → St → M (List Val × St)
  | 0, _, _, _, _, _, _ => M.fail .fuel
  | _+1, _, _, _, [], _, st => M.pure ([], st)
  | n+1, elt, target, conds, x :: xs, vars, st => do
    let (vars', st) ← store env n target x vars st
    let (keep, st) ← evalConds env n conds vars' st
    if keep then do
      let (v, st) ← eval env n elt vars' st
      let (vs, st) ← evalComp env n elt target conds xs vars st
      M.pure (v :: vs, st)
    else evalComp env n elt target conds xs vars st

def evalConds (env : Env) : Nat → List Expr → Vars → St → M (Bool × St)
  | 0, _, _, _ => M.fail .fuel
  | _+1, [], _, st => M.pure (true, st)
  | n+1, c :: cs, vars, st => do
    let (a, st) ← eval env n c vars st
    if (← truthy a) then evalConds env n cs vars st else M.pure (false, st)

/-- attribute read: a heap field, else a translated property of the object's class -/
def getAttr (env : Env) : Nat → Val → String → St → M (Val × St)
  | 0, _, _, _ => M.fail .fuel
  | n+1, v, a, st =>
    match v with
    | .ref addr =>
      match st.heap addr a with
      | some w => M.pure (w, st)
      | Option.none =>
        match st.heap addr "__class__" with
        | some (.str c) =>
          (match lookupMethod env c a with
           | some fd =>
             if fd.isProperty then callFun env n fd [v] [] [] st
             else M.fail (.unsupported "bound method as a value")
           | Option.none => callExt env v ("." ++ a) [] st)
        | _ => M.fail (.raise "AttributeError")
    | _ => M.fail (.raise "AttributeError")

def callMethod (env : Env) : Nat → Val → String → List Val → List (String × Val) → St → M (Val × St)
  | 0, _, _, _, _, _ => M.fail .fuel
  | n+1, rv, m, as, kws, st =>
    match containerMethod rv m as with
    | some r => do M.pure ((← r), st)
    | Option.none =>
      match rv with
      | .ref addr =>
        (match st.heap addr "__class__" with
         | some (.str c) =>
           (match lookupMethod env c m with
            | some fd => callFun env n fd (rv :: as) kws [] st
            | Option.none => callExt env rv m (as ++ kws.map (·.2)) st)
         | _ => callExt env rv m (as ++ kws.map (·.2)) st)
      | _ => M.fail (.unsupported ("method " ++ m ++ " of a non-object"))

/-- call of a translated function: parameters bound positionally, then by keyword, then defaults
(evaluated at call time; they are constants in the fragment).  `outer` is the enclosing frame of
a local closure (read-only: the callee's assignments stay in its own frame). -/
def callFun (env : Env) : Nat → FunDef → List Val → List (String × Val) → Vars → St → M (Val × St)
  | 0, _, _, _, _, _ => M.fail .fuel
  | n+1, fd, as, kws, outer, st => do
    let (bound, pend) ← liftE (bindParams fd.params fd.defaults as kws)
    let (dvs, st) ← evalList env n (pend.map (·.2)) [] st
    let frame : Vars := bound ++ (pend.map (·.1)).zip dvs ++ outer
    let (fl, _, st) ← execBlock env n fd.body frame st
    match fl with
    | .ret v => M.pure (v, st)
    | _ => M.pure (.none, st)

/-- comparison operators (user-defined `__eq__`, `__lt__`, … of translated classes are called) -/
def cmpVals (env : Env) : Nat → CmpOp → Val → Val → St → M (Val × St)
  | 0, _, _, _, _ => M.fail .fuel
  | n+1, op, a, b, st =>
    match userMethod env st a (dunderOf op) with
    | some fd => callFun env n fd [a, b] [] [] st
    | Option.none =>
      match op with
      | .isIn =>
        (match b with
         | .list l => do
           let (r, st) ← memListU env n a l st
           M.pure (.bool (.lit r), st)
         | _ => do M.pure ((← primCmp op a b), st))
      | .notIn =>
        (match b with
         | .list l => do
           let (r, st) ← memListU env n a l st
           M.pure (.bool (.lit (!r)), st)
         | _ => do M.pure ((← primCmp op a b), st))
      | .ne =>
        -- the default `__ne__` inverts a user-defined `__eq__`
        (match userMethod env st a (some "__eq__") with
         | some fd => do
           let (r, st) ← callFun env n fd [a, b] [] [] st
           M.pure (.bool (truthyT r).mkNot, st)
         | Option.none => do M.pure ((← primCmp op a b), st))
      | _ => do M.pure ((← primCmp op a b), st)

/-- store into an assignment target -/
def store (env : Env) : Nat → Expr → Val → Vars → St → M (Vars × St)
  | 0, _, _, _, _ => M.fail .fuel
  | n+1, target, v, vars, st =>
    match target with
    | .name x => M.pure (setVar x v vars, st)
    | .attr e a => do
      let (o, st) ← eval env n e vars st
      match o with
      | .ref addr => M.pure (vars, st.set addr a v)
      | _ => M.fail (.raise "AttributeError")
    | .sub c k => do
      let (cv, st) ← eval env n c vars st
      let (kv, st) ← eval env n k vars st
      match cv with
      | .dict ks vs => do
        let (ks', vs') ← dictSet kv v ks vs
        store env n c (.dict ks' vs') vars st
      | .list l =>
        (match kv with
         | .int (.lit i) =>
           let j : Int := if i < 0 then i + l.length else i
           if j < 0 ∨ j ≥ l.length then M.fail (.raise "IndexError")
           else store env n c (.list (l.set j.toNat v)) vars st
         | _ => M.fail (.unsupported "symbolic index"))
      | _ => M.fail (.unsupported "item assignment on this value")
    | .lst ts =>
      match v with
      | .list vs => storeAll env n ts vs vars st
      | _ => M.fail (.raise "TypeError")
    | _ => M.fail (.unsupported "assignment target")

def storeAll (env : Env) : Nat → List Expr → List Val → Vars → St → M (Vars × St)
  | 0, _, _, _, _ => M.fail .fuel
  | _+1, [], [], vars, st => M.pure (vars, st)
  | n+1, t :: ts, v :: vs, vars, st => do
    let (vars, st) ← store env n t v vars st
    storeAll env n ts vs vars st
  | _+1, _, _, _, _ => M.fail (.raise "ValueError")

def exec (env : Env) : Nat → Stmt → Vars → St → M (Flow × Vars × St)
  | 0, _, _, _ => M.fail .fuel
  | n+1, s, vars, st =>
    match s with
    | .expr (.call (.attr target "append") [arg] [] []) => do
      -- `xs.append(v)` on a list held in a variable / field: the container is a value, so this is
      -- `xs = xs + [v]` (another name for the same list object would not see it: not modelled)
      let (c, st) ← eval env n target vars st
      match c with
      | .list l => do
        let (v, st) ← eval env n arg vars st
        let (vars, st) ← store env n target (.list (l ++ [v])) vars st
        M.pure (.normal, vars, st)
      | .ref _ => do
        let (_, st) ← eval env n (.call (.attr target "append") [arg] [] []) vars st
        M.pure (.normal, vars, st)
      | _ => M.fail (.unsupported "append on this value")
    | .expr (.call (.attr target "extend") [arg] [] []) => do
      -- `xs.extend(ys)` on a list held in a variable / field: `xs = xs + list(ys)` (same caveat as `append`)
      let (c, st) ← eval env n target vars st
      match c with
      | .list l => do
        let (v, st) ← eval env n arg vars st
        match v with
        | .list l2 => do
          let (vars, st) ← store env n target (.list (l ++ l2)) vars st
          M.pure (.normal, vars, st)
        | _ => M.fail (.unsupported "extend by this value")
      | .ref _ => do
        let (_, st) ← eval env n (.call (.attr target "extend") [arg] [] []) vars st
        M.pure (.normal, vars, st)
      | _ => M.fail (.unsupported "extend on this value")
    | .expr (.call (.attr target "remove") [arg] [] []) => do
      let (c, st) ← eval env n target vars st
      match c with
      | .list l => do
        let (x, st) ← eval env n arg vars st
        let (r, st) ← removeFirst env n x l st
        match r with
        | Option.none => M.fail (.raise "ValueError")
        | some l' => do
          let (vars, st) ← store env n target (.list l') vars st
          M.pure (.normal, vars, st)
      | .ref _ => do
        let (_, st) ← eval env n (.call (.attr target "remove") [arg] [] []) vars st
        M.pure (.normal, vars, st)
      | _ => M.fail (.unsupported "remove on this value")
    | .expr (.call (.attr target "pop") [arg] [] []) => do
      let (c, st) ← eval env n target vars st
      match c with
      | .dict ks vs => do
        let (k, st) ← eval env n arg vars st
        match (← dictGet k ks vs) with
        | Option.none => M.fail (.raise "KeyError")
        | some _ => do
          let (ks', vs') ← dictDel k ks vs
          let (vars, st) ← store env n target (.dict ks' vs') vars st
          M.pure (.normal, vars, st)
      | .ref _ => do
        let (_, st) ← eval env n (.call (.attr target "pop") [arg] [] []) vars st
        M.pure (.normal, vars, st)
      | _ => M.fail (.unsupported "pop on this value")
    | .expr e => do
      let (_, st) ← eval env n e vars st
      M.pure (.normal, vars, st)
    | .assign t e => do
      let (v, st) ← eval env n e vars st
      let (vars, st) ← store env n t v vars st
      M.pure (.normal, vars, st)
    | .aug t op e => do
      let (a, st) ← eval env n t vars st
      let (b, st) ← eval env n e vars st
      let v ← arith op a b
      let (vars, st) ← store env n t v vars st
      M.pure (.normal, vars, st)
    | .ifs c t e => do
      let (a, st) ← eval env n c vars st
      if (← truthy a) then execBlock env n t vars st else execBlock env n e vars st
    | .ret e => do
      let (v, st) ← eval env n e vars st
      M.pure (.ret v, vars, st)
    | .raise exc => M.fail (.raise exc)
    | .assert_ c => do
      let (a, st) ← eval env n c vars st
      if (← truthy a) then M.pure (.normal, vars, st) else M.fail (.raise "AssertionError")
    | .for_ t it body => do
      let (a, st) ← eval env n it vars st
      match a with
      | .list l => execFor env n t l body vars st
      | .dict ks _ => execFor env n t ks body vars st
      | _ => M.fail (.raise "TypeError")
    | .while_ c body => execWhile env n c body vars st
    | .def_ name params defaults body =>
      M.pure (.normal, setVar name (.clo { params := params, defaults := defaults, body := body }) vars, st)
    | .continue_ => M.pure (.cont, vars, st)
    | .break_ => M.pure (.brk, vars, st)
    | .pass => M.pure (.normal, vars, st)

def execBlock (env : Env) : Nat → List Stmt → Vars → St → M (Flow × Vars × St)
  | 0, _, _, _ => M.fail .fuel
  | _+1, [], vars, st => M.pure (.normal, vars, st)
  | n+1, s :: ss, vars, st => do
    let (fl, vars, st) ← exec env n s vars st
    match fl with
    | .normal => execBlock env n ss vars st
    | other => M.pure (other, vars, st)

def execFor (env : Env) : Nat → Expr → List Val → List Stmt → Vars → St → M (Flow × Vars × St)
  | 0, _, _, _, _, _ => M.fail .fuel
  | _+1, _, [], _, vars, st => M.pure (.normal, vars, st)
  | n+1, t, x :: xs, body, vars, st => do
    let (vars, st) ← store env n t x vars st
    let (fl, vars, st) ← execBlock env n body vars st
    match fl with
    | .brk => M.pure (.normal, vars, st)
    | .ret v => M.pure (.ret v, vars, st)
    | _ => execFor env n t xs body vars st

def execWhile (env : Env) : Nat → Expr → List Stmt → Vars → St → M (Flow × Vars × St)
  | 0, _, _, _, _ => M.fail .fuel
  | n+1, c, body, vars, st => do
    let (a, st) ← eval env n c vars st
    if (← truthy a) then do
      let (fl, vars, st) ← execBlock env n body vars st
      match fl with
      | .brk => M.pure (.normal, vars, st)
      | .ret v => M.pure (.ret v, vars, st)
      | _ => execWhile env n c body vars st
    else M.pure (.normal, vars, st)

end

/-- run a translated function by qualified name -/
def run (env : Env) (fuel : Nat) (fn : String) (args : List Val) (st : St) : M (Val × St) :=
  match lookupFun fn env.prog with
  | some fd => callFun env fuel fd args [] [] st
  | Option.none => M.fail (.unbound fn)

/-- the meaning of a run under a valuation of the atoms -/
def sem {K : Type} [PyNum K] (ρ : Rho K) (env : Env) (fuel : Nat) (fn : String) (args : List Val)
    (st : St) : Except Err (Val × St) :=
  Tree.denote ρ (run env fuel fn args st)

end Pams.Py
